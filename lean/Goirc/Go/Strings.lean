import Goirc.Go.Bytes
/-!
# More of Go's `strings` package, byte-exact

`fields` and `trimSpace` are Unicode-aware in Go.  They are modelled with `spaceWidth`, which
recognises the UTF-8 encodings of the runes in `unicode.IsSpace` (U+0009–000D, 0020, 0085, 00A0,
1680, 2000–200A, 2028, 2029, 202F, 205F, 3000).  This is exact because Go decodes sequentially with
"invalid byte ⇒ width-1 RuneError", every lead byte of those encodings is ≥ 0xC2, and a byte
≥ 0xC0 is never consumed as a continuation byte: so a space encoding is seen as a space rune at
whatever position it occurs, whatever precedes it (validated against Go on invalid UTF-8 too).
-/
namespace Go

/-- width of the `unicode.IsSpace` rune encoded at the head of `s`, or 0 if none starts here -/
def spaceWidth : Bytes → Nat
  | [] => 0
  | b :: rest =>
    if b == 32 || (9 ≤ b && b ≤ 13) then 1
    else if b == 0xC2 then
      match rest with
      | c :: _ => if c == 0x85 || c == 0xA0 then 2 else 0
      | [] => 0
    else if b == 0xE1 then
      match rest with
      | c :: d :: _ => if c == 0x9A && d == 0x80 then 3 else 0
      | _ => 0
    else if b == 0xE2 then
      match rest with
      | c :: d :: _ =>
        if c == 0x80 && ((0x80 ≤ d && d ≤ 0x8A) || d == 0xA8 || d == 0xA9 || d == 0xAF) then 3
        else if c == 0x81 && d == 0x9F then 3 else 0
      | _ => 0
    else if b == 0xE3 then
      match rest with
      | c :: d :: _ => if c == 0x80 && d == 0x80 then 3 else 0
      | _ => 0
    else 0

theorem spaceWidth_le (s : Bytes) : spaceWidth s ≤ s.length := by
  fun_cases spaceWidth s <;> simp

/-- `strings.Fields` core: `cur` is the field being accumulated (reversed) -/
def fieldsAux (fuel : Nat) (s : Bytes) (cur : Bytes) : List Bytes :=
  match fuel with
  | 0 => if cur.isEmpty then [] else [cur.reverse]
  | fuel + 1 =>
    match s with
    | [] => if cur.isEmpty then [] else [cur.reverse]
    | b :: rest =>
      if spaceWidth (b :: rest) == 0 then fieldsAux fuel rest (b :: cur)
      else
        let tail := fieldsAux fuel ((b :: rest).drop (spaceWidth (b :: rest))) []
        if cur.isEmpty then tail else cur.reverse :: tail

/-- `strings.Fields(s)` -/
def fields (s : Bytes) : List Bytes := fieldsAux (s.length + 1) s []

/-- strip leading space runes -/
def trimLeftSpace (fuel : Nat) (s : Bytes) : Bytes :=
  match fuel with
  | 0 => s
  | fuel + 1 => if spaceWidth s == 0 then s else trimLeftSpace fuel (s.drop (spaceWidth s))

/-- does a space rune end exactly at the end of `s`?  returns its width (0 if none).
Go's `DecodeLastRune` looks back over continuation bytes to the nearest start byte. -/
def lastSpaceWidth (s : Bytes) : Nat :=
  let n := s.length
  if n ≥ 1 && spaceWidth (s.drop (n - 1)) == 1 then 1
  else if n ≥ 2 && spaceWidth (s.drop (n - 2)) == 2 then 2
  else if n ≥ 3 && spaceWidth (s.drop (n - 3)) == 3 then 3
  else 0

def trimRightSpace (fuel : Nat) (s : Bytes) : Bytes :=
  match fuel with
  | 0 => s
  | fuel + 1 => if lastSpaceWidth s == 0 then s else trimRightSpace fuel (s.take (s.length - lastSpaceWidth s))

/-- `strings.TrimSpace(s)` -/
def trimSpace (s : Bytes) : Bytes :=
  let t := trimLeftSpace (s.length + 1) s
  trimRightSpace (t.length + 1) t

/-- `strings.Trim(s, cutset)` for a one-byte ASCII cutset -/
def trimByte (c : UInt8) (s : Bytes) : Bytes :=
  ((s.dropWhile (· == c)).reverse.dropWhile (· == c)).reverse

/-- `strings.Trim(s, "\r\n")` -/
def trimCRLF (s : Bytes) : Bytes :=
  ((s.dropWhile (fun b => b == 13 || b == 10)).reverse.dropWhile (fun b => b == 13 || b == 10)).reverse

/-- `strings.Split(s, [c])` for a one-byte separator -/
def splitByte (c : UInt8) : Bytes → Bytes → List Bytes
  | acc, [] => [acc.reverse]
  | acc, b :: rest => if b == c then acc.reverse :: splitByte c [] rest else splitByte c (b :: acc) rest

/-- `strings.SplitN(s, sep, 2)` as (before, some after) or (s, none) -/
def cut (s sep : Bytes) : Bytes × Option Bytes :=
  match index s sep with
  | some i => (s.take i, some (s.drop (i + sep.length)))
  | none => (s, none)

/-- `strings.LastIndex(s, [c])` as `Option Nat` -/
def lastIndexByte (s : Bytes) (c : UInt8) : Option Nat :=
  let rec go : Bytes → Nat → Option Nat → Option Nat
    | [], _, acc => acc
    | b :: rest, i, acc => go rest (i + 1) (if b == c then some i else acc)
  go s 0 none

end Go
