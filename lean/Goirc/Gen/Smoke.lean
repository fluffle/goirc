import Goirc.Gen.Pure
/-!
# Sanity checks of the generated definitions on concrete inputs

Expected values were produced by running the real Go code (`go run -tags verif` of a scratch driver
over `client.VerifSplitMessage`, `client.ParseLine`, …; see REPORT.md, "Differential test": 5030 cases,
of which these are a hand-picked few).  `lit "…"` is the ASCII literal as bytes.  Every check is
`by decide +kernel`: the kernel alone evaluates the generated `do`-blocks, fuel loops included (plain `decide`
would have the elaborator evaluate them first).
-/
open Go Go.Rt
namespace Gen.Smoke

/-- the tests keep everything that reaches `strings.ToUpper` ASCII, so the extension is never consulted -/
def ext : UnicodeExt := ⟨id, id⟩

/-! ## the prelude panics exactly where Go does -/
-- "hello"[5]: index out of range [5] with length 5;  "hello"[-1]
example : Rt.idx (lit "hello") 5 = .error (.index 5 5) := by decide +kernel
example : Rt.idx (lit "hello") (-1) = .error (.index (-1) 5) := by decide +kernel
example : Rt.idx (lit "hello") 1 = .ok 101 := by decide +kernel
-- "hello"[4:2], "hello"[:6], "hello"[6:], "hello"[1:3], "hello"[5:]
example : Rt.slice (lit "hello") 4 2 = .error (.slice 4 2 5) := by decide +kernel
example : Rt.sliceTo (lit "hello") 6 = .error (.slice 0 6 5) := by decide +kernel
example : Rt.sliceFrom (lit "hello") 6 = .error (.slice 6 5 5) := by decide +kernel
example : Rt.slice (lit "hello") 1 3 = .ok (lit "el") := by decide +kernel
example : Rt.sliceFrom (lit "hello") 5 = .ok [] := by decide +kernel
-- []string{"a","b","c"}[3] = "Z";  var m map[string]string; m["a"] = "b"
example : Rt.setIdx [lit "a", lit "b", lit "c"] 3 (lit "Z") = .error (.index 3 3) := by decide +kernel
example : Rt.mapSet none (lit "a") (lit "b") = .error .nilMap := by decide +kernel
example : Rt.mapSet (some [(lit "a", lit "x")]) (lit "a") (lit "b") = .ok (some [(lit "a", lit "b")]) := by decide +kernel
-- strings.NewReplacer("a","1","ab","2").Replace("ab") = "1b": argument order wins, not length
example : Rt.replace [(lit "a", lit "1"), (lit "ab", lit "2")] (lit "ab") = lit "1b" := by decide +kernel
example : Rt.replace tagsReplacer (lit "a\\sb\\\\s\\:\\x\\") = lit "a b\\s;\\x\\" := by decide +kernel
example : Rt.splitN (lit "a b c") (lit " ") 2 = [lit "a", lit "b c"] := by decide +kernel
example : Rt.splitN (lit "a b c") (lit " ") 0 = [] := by decide +kernel
example : Rt.split (lit ";a;;b") (lit ";") = [[], lit "a", [], lit "b"] := by decide +kernel
example : Rt.lastIndex (lit "a. b. c") (lit ". ") = 4 := by decide +kernel
example : Rt.lastIndex (lit "abc") [] = 3 := by decide +kernel

/-! ## client/commands.go -/
example : cutNewLines (lit "PRIVMSG #c :hi\r\nQUIT") = .ok (lit "PRIVMSG #c :hi") := by decide +kernel
example : cutNewLines (lit "a\nb\rc") = .ok (lit "a") := by decide +kernel
example : cutNewLines [] = .ok [] := by decide +kernel

example : indexFragment (lit "x. y: z") = .ok 6 := by decide +kernel
example : indexFragment (lit "foo ") = .ok 4 := by decide +kernel
example : indexFragment (lit ". ") = .ok 2 := by decide +kernel      -- max = 0 is not > 0; the lone-space rule gives 1+1
example : indexFragment (lit " a") = .ok (-1) := by decide +kernel   -- a space at index 0 does not count
example : indexFragment (lit "abc") = .ok (-1) := by decide +kernel

-- splitMessage("foo.'  foo. b' .\" a.  . \r\"  \n: ..", 16)
example : splitMessage (lit "foo.'  foo. b' .\" a.  . \r\"  \n: ..") 16
    = .ok [lit "foo.'  foo. ...", lit "b' .\" a.  . ...", lit "\r\"  \n: .."] := by decide +kernel
-- splitLen < 13 means 450: nothing to split
example : splitMessage (lit "foo' . ? barb\" ") (-5) = .ok [lit "foo' . ? barb\" "] := by decide +kernel
-- no space at all: cut at splitLen-3
example : splitMessage (lit "xxxxxxxxxxxxxxxxxxxxxxxxx") 13
    = .ok [lit "xxxxxxxxxx...", lit "xxxxxxxxxx...", lit "xxxxx"] := by decide +kernel

example : splitArgs [lit "x", lit "x", lit "ax"] 8 = .ok [lit "x x ax"] := by decide +kernel
example : splitArgs [lit "a", [], lit "aa", lit "x", []] 3 = .ok [lit "a ", lit "aa", lit "x "] := by decide +kernel
example : splitArgs [] 10 = .ok [] := by decide +kernel
example : splitArgs [lit "bcx"] (-1) = .ok [lit "bcx"] := by decide +kernel

/-! ## client/connection.go -/
example : hasPort (lit "host:6667") = .ok true := by decide +kernel
example : hasPort (lit "[::1]") = .ok false := by decide +kernel
example : hasPort (lit "[::1]:6667") = .ok true := by decide +kernel
example : hasPort [] = .ok false := by decide +kernel

/-! ## client/line.go -/
example : parseUserHost (lit "nick!user@host") = .ok (lit "nick", lit "user", lit "host", true) := by decide +kernel
example : parseUserHost (lit "nick@host!user") = .ok ([], [], [], false) := by decide +kernel
example : parseUserHost (lit " n!u@h ") = .ok (lit "n", lit "u", lit "h", true) := by decide +kernel
example : parseUserHost (lit "!!@@") = .ok ([], lit "!", lit "@", true) := by decide +kernel
example : parseUserHost (lit "a!b") = .ok ([], [], [], false) := by decide +kernel

example : ParseLine ext [] = .ok none := by decide +kernel
example : ParseLine ext (lit "@a=b") = .ok none := by decide +kernel
example : ParseLine ext (lit ":a") = .ok none := by decide +kernel
example : ParseLine ext (lit "  ") = .ok none := by decide +kernel
example : ParseLine ext (lit "ping :x") = .ok (some { Raw := lit "ping :x", Cmd := lit "PING", Args := [lit "x"] }) := by decide +kernel
example : ParseLine ext (lit ":n!u@h PRIVMSG #c :hi there")
    = .ok (some { Raw := lit ":n!u@h PRIVMSG #c :hi there", Src := lit "n!u@h", Nick := lit "n", Ident := lit "u", Host := lit "h",
                  Cmd := lit "PRIVMSG", Args := [lit "#c", lit "hi there"] }) := by decide +kernel
-- CTCP ACTION becomes its own command; the verb is upper-cased; Args[1] is rewritten in place
example : ParseLine ext (lit ":n!u@h PRIVMSG #c :\x01action waves\x01")
    = .ok (some { Raw := lit ":n!u@h PRIVMSG #c :\x01action waves\x01", Src := lit "n!u@h", Nick := lit "n", Ident := lit "u", Host := lit "h",
                  Cmd := lit "ACTION", Args := [lit "#c", lit "waves"] }) := by decide +kernel
-- other CTCPs: the verb is prepended to Args
example : ParseLine ext (lit ":n!u@h NOTICE me :\x01VERSION x y\x01")
    = .ok (some { Raw := lit ":n!u@h NOTICE me :\x01VERSION x y\x01", Src := lit "n!u@h", Nick := lit "n", Ident := lit "u", Host := lit "h",
                  Cmd := lit "CTCPREPLY", Args := [lit "VERSION", lit "me", lit "x y"] }) := by decide +kernel
example : ParseLine ext (lit ":n!u@h PRIVMSG me :\x01\x01\x01")
    = .ok (some { Raw := lit ":n!u@h PRIVMSG me :\x01\x01\x01", Src := lit "n!u@h", Nick := lit "n", Ident := lit "u", Host := lit "h",
                  Cmd := lit "CTCP", Args := [[], lit "me", lit "\x01\x01\x01"] }) := by decide +kernel
-- tags: escapes, key-only tags, a repeated key keeps its first position and takes the last value
example : ParseLine ext (lit "@a=b;c;d=\\s\\:e;;a=z :srv 001 me :hi")
    = .ok (some { Raw := lit "@a=b;c;d=\\s\\:e;;a=z :srv 001 me :hi", Src := lit "srv", Host := lit "srv", Cmd := lit "001",
                  Tags := some [(lit "a", lit "z"), (lit "c", []), (lit "d", lit " ;e")], Args := [lit "me", lit "hi"] }) := by decide +kernel

example : Line_Text { Cmd := lit "PRIVMSG", Args := [lit "#c", lit "x"] } = .ok (lit "x") := by decide +kernel
example : Line_Text { Cmd := lit "PRIVMSG" } = .ok [] := by decide +kernel
example : Line_Public { Cmd := lit "PRIVMSG", Args := [lit "#c"] } = .ok true := by decide +kernel
example : Line_Public { Cmd := lit "PRIVMSG", Args := [[]] } = .ok false := by decide +kernel
example : Line_Public { Cmd := lit "CTCP", Args := [lit "X", lit "+c", lit "t"] } = .ok true := by decide +kernel
example : Line_Public { Cmd := lit "CTCP", Args := [lit "#c"] } = .ok false := by decide +kernel
example : Line_Public { Cmd := lit "JOIN", Args := [lit "#c"] } = .ok false := by decide +kernel
example : Line_Target { Cmd := lit "PRIVMSG", Nick := lit "nk", Args := [lit "&c", lit "x"] } = .ok (lit "&c") := by decide +kernel
example : Line_Target { Cmd := lit "PRIVMSG", Nick := lit "nk", Args := [lit "me"] } = .ok (lit "nk") := by decide +kernel
example : Line_Target { Cmd := lit "CTCP", Nick := lit "nk", Args := [lit "X", lit "#c"] } = .ok (lit "#c") := by decide +kernel
example : Line_Target { Cmd := lit "CTCP", Nick := lit "nk", Args := [lit "X"] } = .ok (lit "nk") := by decide +kernel
example : Line_Target { Cmd := lit "JOIN", Nick := lit "nk", Args := [lit "a", lit "b"] } = .ok (lit "a") := by decide +kernel
example : Line_Target { Cmd := [], Nick := lit "nk" } = .ok [] := by decide +kernel

/-! ## v2: command methods of `*Conn` (client/commands.go)

The expected queues are what `client.VerifCapture(conn, func(){ conn.Join("#c", "k") })` returned for a
`client.Client(cfg)` with the given `SplitLen` and the default `QuitMessage` ("GoBye!"); the text below was
printed by a Go program (scratch/smokego2), not typed.  The result is the whole new `Conn`: config untouched, the
lines appended to `out`. -/
def c0 : Conn := { cfg := { SplitLen := 450, QuitMessage := lit "GoBye!" } }
def c20 : Conn := { cfg := { SplitLen := 20, QuitMessage := lit "GoBye!" } }
def c5 : Conn := { cfg := { SplitLen := 5, QuitMessage := lit "GoBye!" } }   -- < 13: splitMessage uses 450

example : Conn_Raw c0 (lit "PRIVMSG #c :hi\x0d\x0aQUIT :injected") = .ok { c0 with out := [lit "PRIVMSG #c :hi"] } := by decide +kernel
example : Conn_Raw c0 [] = .ok { c0 with out := [[]] } := by decide +kernel
example : Conn_Pass c0 (lit "secret") = .ok { c0 with out := [lit "PASS secret"] } := by decide +kernel
example : Conn_Nick c0 (lit "me\x0aOPER x y") = .ok { c0 with out := [lit "NICK me"] } := by decide +kernel
example : Conn_User c0 (lit "id") (lit "Real Name") = .ok { c0 with out := [lit "USER id 12 * :Real Name"] } := by decide +kernel
example : Conn_Join c0 (lit "#c") [] = .ok { c0 with out := [lit "JOIN #c"] } := by decide +kernel
example : Conn_Join c0 (lit "#c") [lit "k"] = .ok { c0 with out := [lit "JOIN #c k"] } := by decide +kernel
example : Conn_Join c0 (lit "#c") [lit "k", lit "ignored"] = .ok { c0 with out := [lit "JOIN #c k"] } := by decide +kernel
example : Conn_Part c0 (lit "#c") [] = .ok { c0 with out := [lit "PART #c"] } := by decide +kernel
example : Conn_Part c0 (lit "#c") [lit "bye", lit "now"] = .ok { c0 with out := [lit "PART #c :bye now"] } := by decide +kernel
example : Conn_Kick c0 (lit "#c") (lit "bob") [] = .ok { c0 with out := [lit "KICK #c bob"] } := by decide +kernel
example : Conn_Kick c0 (lit "#c") (lit "bob") [lit "go", lit "away"] = .ok { c0 with out := [lit "KICK #c bob :go away"] } := by decide +kernel
example : Conn_Quit c0 [] = .ok { c0 with out := [lit "QUIT :GoBye!"] } := by decide +kernel
example : Conn_Quit c0 [lit "so", lit "long"] = .ok { c0 with out := [lit "QUIT :so long"] } := by decide +kernel
example : Conn_Quit c0 [[]] = .ok { c0 with out := [lit "QUIT :GoBye!"] } := by decide +kernel
example : Conn_Whois c0 (lit "bob") = .ok { c0 with out := [lit "WHOIS bob"] } := by decide +kernel
example : Conn_Who c0 (lit "bob") = .ok { c0 with out := [lit "WHO bob"] } := by decide +kernel
example : Conn_Privmsg c0 (lit "#c") (lit "hello there") = .ok { c0 with out := [lit "PRIVMSG #c :hello there"] } := by decide +kernel
example : Conn_Privmsg c20 (lit "#c") (lit "one two. three four five six") = .ok { c20 with out := [lit "PRIVMSG #c :one two. ...", lit "PRIVMSG #c :three four five six"] } := by decide +kernel
example : Conn_Privmsg c5 (lit "#c") (lit "one two. three four five six") = .ok { c5 with out := [lit "PRIVMSG #c :one two. three four five six"] } := by decide +kernel
example : Conn_Notice c20 (lit "bob") (lit "aaaaaaaaaaaaaaaaaaaaaaaaa") = .ok { c20 with out := [lit "NOTICE bob :aaaaaaaaaaaaaaaaa...", lit "NOTICE bob :aaaaaaaa"] } := by decide +kernel
example : Conn_Notice c0 (lit "bob") [] = .ok { c0 with out := [lit "NOTICE bob :"] } := by decide +kernel
example : Conn_Ctcp ext c0 (lit "bob") (lit "ping") [lit "1", lit "2"] = .ok { c0 with out := [lit "PRIVMSG bob :\x01PING 1 2\x01"] } := by decide +kernel
example : Conn_Ctcp ext c0 (lit "bob") (lit "time") [] = .ok { c0 with out := [lit "PRIVMSG bob :\x01TIME\x01"] } := by decide +kernel
example : Conn_Ctcp ext c20 (lit "bob") (lit "x") [lit "one two. three four five six"] = .ok { c20 with out := [lit "PRIVMSG bob :\x01X one two. ...\x01", lit "PRIVMSG bob :\x01X three four five six\x01"] } := by decide +kernel
example : Conn_CtcpReply ext c0 (lit "bob") (lit "version") [lit "goirc"] = .ok { c0 with out := [lit "NOTICE bob :\x01VERSION goirc\x01"] } := by decide +kernel
example : Conn_Version ext c0 (lit "bob") = .ok { c0 with out := [lit "PRIVMSG bob :\x01VERSION\x01"] } := by decide +kernel
example : Conn_Action ext c0 (lit "#c") (lit "waves") = .ok { c0 with out := [lit "PRIVMSG #c :\x01ACTION waves\x01"] } := by decide +kernel
example : Conn_Action ext c0 (lit "#c") [] = .ok { c0 with out := [lit "PRIVMSG #c :\x01ACTION\x01"] } := by decide +kernel
example : Conn_Topic c0 (lit "#c") [] = .ok { c0 with out := [lit "TOPIC #c"] } := by decide +kernel
example : Conn_Topic c0 (lit "#c") [lit "new", lit "topic"] = .ok { c0 with out := [lit "TOPIC #c :new topic"] } := by decide +kernel
example : Conn_Mode c0 (lit "#c") [] = .ok { c0 with out := [lit "MODE #c"] } := by decide +kernel
example : Conn_Mode c0 (lit "#c") [lit "+nsk", lit "key"] = .ok { c0 with out := [lit "MODE #c +nsk key"] } := by decide +kernel
example : Conn_Away c0 [] = .ok { c0 with out := [lit "AWAY"] } := by decide +kernel
example : Conn_Away c0 [lit "gone", lit "fishing"] = .ok { c0 with out := [lit "AWAY :gone fishing"] } := by decide +kernel
example : Conn_Invite c0 (lit "bob") (lit "#c") = .ok { c0 with out := [lit "INVITE bob #c"] } := by decide +kernel
example : Conn_Oper c0 (lit "u") (lit "p") = .ok { c0 with out := [lit "OPER u p"] } := by decide +kernel
example : Conn_VHost c0 (lit "u") (lit "p") = .ok { c0 with out := [lit "VHOST u p"] } := by decide +kernel
example : Conn_Ping c0 (lit "123") = .ok { c0 with out := [lit "PING :123"] } := by decide +kernel
example : Conn_Pong c0 (lit "123") = .ok { c0 with out := [lit "PONG :123"] } := by decide +kernel
example : Conn_Cap c0 (lit "LS") [] = .ok { c0 with out := [lit "CAP LS"] } := by decide +kernel
example : Conn_Cap c0 (lit "REQ") [lit "sasl", lit "multi-prefix"] = .ok { c0 with out := [lit "CAP REQ :sasl multi-prefix"] } := by decide +kernel
-- 120 capabilities do not fit into one 450-byte line: splitArgs cuts after the 73rd
set_option maxRecDepth 20000 in
example : Conn_Cap c0 (lit "REQ") (List.replicate 120 (lit "capab")) = .ok { c0 with out := [lit "CAP REQ :" ++ join (lit " ") (List.replicate 73 (lit "capab")), lit "CAP REQ :" ++ join (lit " ") (List.replicate 47 (lit "capab"))] } := by decide +kernel
example : Conn_Authenticate c0 (lit "+") = .ok { c0 with out := [lit "AUTHENTICATE +"] } := by decide +kernel

-- the queue is FIFO across calls: conn.Nick("a"); conn.Join("#c"); conn.Quit()
example : (do let c ← Conn_Nick c0 (lit "a"); let c ← Conn_Join c (lit "#c") []; Conn_Quit c [])
    = .ok { c0 with out := [lit "NICK a", lit "JOIN #c", lit "QUIT :GoBye!"] } := by decide +kernel

/-! ## v2: `DefaultNewNick` (client/connection.go) -/
example : DefaultNewNick [] = .ok (lit "_") := by decide +kernel
example : DefaultNewNick (lit "nick") = .ok (lit "nicl") := by decide +kernel
example : DefaultNewNick (lit "nick9") = .ok (lit "nick0") := by decide +kernel
example : DefaultNewNick (lit "nick0") = .ok (lit "nick1") := by decide +kernel
example : DefaultNewNick (lit "nickZ") = .ok (lit "nick[") := by decide +kernel
example : DefaultNewNick (lit "nick}") = .ok (lit "nickA") := by decide +kernel
example : DefaultNewNick (lit "nick|") = .ok (lit "nick}") := by decide +kernel
example : DefaultNewNick (lit "nick~") = .ok (lit "nick_") := by decide +kernel
example : DefaultNewNick (lit "n!") = .ok (lit "n_") := by decide +kernel
example : DefaultNewNick (lit "\xc3\xa9") = .ok (lit "\xc3_") := by decide +kernel
-- string(b) for a byte is the UTF-8 encoding of code point b: string(rune(0xe9)) = "\xc3\xa9"
example : Rt.byteString 0x41 = [0x41] := by decide +kernel
example : Rt.byteString 0xe9 = [0xc3, 0xa9] := by decide +kernel
example : Rt.byteString 0x80 = [0xc2, 0x80] := by decide +kernel

/-! ## v2: `capSet` (client/handlers.go); the receiver is threaded through `Add` / `Clear`
Go (hook added to a scratch copy of the repo): c := capabilitySet(); c.Add("sasl", "-away", "x");
Has("sasl"), Has("away"), Has("nope"), Size() = true, false, false, 3; c.Add("-sasl"); Has("sasl"), Size() = false, 3;
c.Clear(); Size() = 0.  `(&capSet{}).Add("x")` panics: assignment to entry in nil map. -/
def caps1 : capSet := { caps := some [(lit "sasl", true), (lit "away", false), (lit "x", true)] }
example : capSet_Add { caps := some [] } [lit "sasl", lit "-away", lit "x"] = .ok caps1 := by decide +kernel
example : capSet_Has caps1 (lit "sasl") = .ok true := by decide +kernel
example : capSet_Has caps1 (lit "away") = .ok false := by decide +kernel
example : capSet_Has caps1 (lit "nope") = .ok false := by decide +kernel
example : capSet_Size caps1 = .ok 3 := by decide +kernel
example : capSet_Add caps1 [lit "-sasl"] = .ok { caps := some [(lit "sasl", false), (lit "away", false), (lit "x", true)] } := by decide +kernel
example : capSet_Clear caps1 = .ok { caps := some [] } := by decide +kernel
example : capSet_Size { caps := some [] } = .ok 0 := by decide +kernel
example : capSet_Add {} [lit "x"] = .error .nilMap := by decide +kernel
example : capSet_Add {} [] = .ok {} := by decide +kernel
example : capSet_Has {} (lit "x") = .ok false := by decide +kernel

/-! ## v2.5: the simple built-in handlers (client/handlers.go) and `(*Line).argslen`

Expected values: `client.VerifCapture(conn, func(){ client.VerifDispatchInternal(conn, line) })` on
`client.Client(client.NewConfig("me", "id", "Real Name"))` — the real dispatcher, which for these commands runs exactly the
one handler — with a `cfg.Recover` that records the panic (printed by scratch/smokego3, not typed).  A Go panic in the
handler is the `.error` of the generated def. -/
def hcfg : Config := { Me := { Nick := lit "me", Ident := lit "id", Name := lit "Real Name" }, Version := lit "Powered by GoIRC", QuitMessage := lit "GoBye!", SplitLen := 450 }
def hc0 : Conn := { cfg := hcfg }
def hc1 : Conn := { cfg := { hcfg with EnableCapabilityNegotiation := true, Pass := lit "secret" } }
def hc20 : Conn := { cfg := { hcfg with SplitLen := 20 } }

example : Conn_h_PING hc0 { Cmd := lit "PING", Nick := [], Args := [lit "12345"] } = .ok { hc0 with out := [lit "PONG :12345"] } := by decide +kernel
example : Conn_h_PING hc0 { Cmd := lit "PING", Nick := [], Args := [lit "a\x0d\x0ab", lit "ignored"] } = .ok { hc0 with out := [lit "PONG :a"] } := by decide +kernel
-- Go: runtime error: index out of range [0] with length 0
example : Conn_h_PING hc0 { Cmd := lit "PING", Nick := [], Args := [] } = .error (.index 0 0) := by decide +kernel
example : Conn_h_REGISTER hc0 { Cmd := lit "REGISTER", Nick := [], Args := [] } = .ok { hc0 with out := [lit "NICK me", lit "USER id 12 * :Real Name"] } := by decide +kernel
example : Conn_h_REGISTER hc1 { Cmd := lit "REGISTER", Nick := [], Args := [] } = .ok { hc1 with out := [lit "CAP LS", lit "PASS secret", lit "NICK me", lit "USER id 12 * :Real Name"] } := by decide +kernel
example : Conn_h_410 hc0 { Cmd := lit "410", Nick := [], Args := [lit "me", lit "FOO", lit "Invalid CAP command"] } = .ok { hc0 with out := [] } := by decide +kernel
-- Go: runtime error: index out of range [1] with length 1
example : Conn_h_410 hc0 { Cmd := lit "410", Nick := [], Args := [lit "me"] } = .error (.index 1 1) := by decide +kernel
example : Conn_h_903 hc0 { Cmd := lit "903", Nick := [], Args := [lit "me", lit "SASL authentication successful"] } = .ok { hc0 with out := [lit "CAP END"] } := by decide +kernel
example : Conn_h_903 hc0 { Cmd := lit "903", Nick := [], Args := [] } = .ok { hc0 with out := [lit "CAP END"] } := by decide +kernel
example : Conn_h_904 hc0 { Cmd := lit "904", Nick := [], Args := [] } = .ok { hc0 with out := [lit "CAP END"] } := by decide +kernel
example : Conn_h_908 hc0 { Cmd := lit "908", Nick := [], Args := [lit "me", lit "PLAIN,EXTERNAL", lit "are available"] } = .ok { hc0 with out := [lit "CAP END"] } := by decide +kernel
-- Go: runtime error: index out of range [1] with length 1
example : Conn_h_908 hc0 { Cmd := lit "908", Nick := [], Args := [lit "me"] } = .error (.index 1 1) := by decide +kernel
-- Go: runtime error: index out of range [1] with length 0
example : Conn_h_908 hc0 { Cmd := lit "908", Nick := [], Args := [] } = .error (.index 1 0) := by decide +kernel
example : Conn_h_CTCP ext hc0 { Cmd := lit "CTCP", Nick := lit "bob", Args := [lit "VERSION", lit "me"] } = .ok { hc0 with out := [lit "NOTICE bob :\x01VERSION Powered by GoIRC\x01"] } := by decide +kernel
example : Conn_h_CTCP ext hc0 { Cmd := lit "CTCP", Nick := lit "bob", Args := [lit "PING", lit "me", lit "1234 5678"] } = .ok { hc0 with out := [lit "NOTICE bob :\x01PING 1234 5678\x01"] } := by decide +kernel
example : Conn_h_CTCP ext hc0 { Cmd := lit "CTCP", Nick := lit "bob", Args := [lit "PING", lit "me"] } = .ok { hc0 with out := [] } := by decide +kernel
example : Conn_h_CTCP ext hc0 { Cmd := lit "CTCP", Nick := lit "bob", Args := [lit "PING"] } = .ok { hc0 with out := [] } := by decide +kernel
example : Conn_h_CTCP ext hc0 { Cmd := lit "CTCP", Nick := lit "bob", Args := [lit "TIME", lit "me", lit "x"] } = .ok { hc0 with out := [] } := by decide +kernel
example : Conn_h_CTCP ext hc0 { Cmd := lit "CTCP", Nick := lit "bob", Args := [lit "ping", lit "me", lit "x"] } = .ok { hc0 with out := [] } := by decide +kernel
-- Go: runtime error: index out of range [0] with length 0
example : Conn_h_CTCP ext hc0 { Cmd := lit "CTCP", Nick := lit "bob", Args := [] } = .error (.index 0 0) := by decide +kernel
example : Conn_h_CTCP ext hc20 { Cmd := lit "CTCP", Nick := lit "bob", Args := [lit "PING", lit "me", lit "one two. three four five six"] } = .ok { hc20 with out := [lit "NOTICE bob :\x01PING one two. ...\x01", lit "NOTICE bob :\x01PING three four five six\x01"] } := by decide +kernel

-- argslen(n) is len(Args) > n; the logging / runtime calls in it are dropped
example : Line_argslen { Args := [] } 0 = .ok false := by decide +kernel
example : Line_argslen { Args := [lit "a"] } 0 = .ok true := by decide +kernel
example : Line_argslen { Args := [lit "a", lit "b"] } 2 = .ok false := by decide +kernel
example : Line_argslen { Args := [lit "a", lit "b", lit "c"] } 2 = .ok true := by decide +kernel
example : Line_argslen { Args := [lit "a"] } (-1) = .ok true := by decide +kernel

/-! No input makes the CURRENT Go source of these functions panic (all indexing is guarded), so there is
no `.error` example on a generated def here.  REPORT.md lists the edited variants of the source
(guards removed, statements swapped) on which Go panics and the regenerated defs give the same `.error`. -/

end Gen.Smoke
