import Goirc.Go.Bytes
/-!
# Model of `splitMessage` / `indexFragment` (client/commands.go:48-86)

`splitLoop` is the `for len(msg) > splitLen` loop; its termination proof *is* the
"always advances" part of property C11 (`cutIdx_bound`: every cut is at least 2 bytes in).
-/
namespace Go

/-- a search leaves the accumulator as it was or returns a position where the separator fits -/
theorem lastIndex2_range (a b : UInt8) (s : Bytes) (i : Nat) (acc : Int) :
    lastIndex2 a b s i acc = acc ∨ (i ≤ lastIndex2 a b s i acc ∧ lastIndex2 a b s i acc + 2 ≤ i + s.length) := by
  induction s generalizing i acc with
  | nil => exact Or.inl rfl
  | cons x rest ih =>
    cases rest with
    | nil => exact Or.inl rfl
    | cons y rest =>
      have := ih (i+1) (if x == a && y == b then (i : Int) else acc)
      by_cases hc : (x == a && y == b) = true <;>
        simp only [lastIndex2, List.length_cons, hc, if_true] at this ⊢ <;> omega

theorem lastIndex1_range (a : UInt8) (s : Bytes) (i : Nat) (acc : Int) :
    lastIndex1 a s i acc = acc ∨ (i ≤ lastIndex1 a s i acc ∧ lastIndex1 a s i acc + 1 ≤ i + s.length) := by
  induction s generalizing i acc with
  | nil => exact Or.inl rfl
  | cons x rest ih =>
    have := ih (i+1) (if x == a then (i : Int) else acc)
    by_cases hc : (x == a) = true <;>
      simp only [lastIndex1, List.length_cons, hc, if_true] at this ⊢ <;> omega

def seps : List UInt8 := [46, 58, 59, 44, 33, 63, 34, 39]

def fragMax (s : Bytes) : Int :=
  seps.foldl (fun m p => if lastIndex2 p 32 s 0 (-1) > m then lastIndex2 p 32 s 0 (-1) else m) (-1)

def indexFragment (s : Bytes) : Int :=
  if fragMax s > 0 then fragMax s + 2
  else if lastIndex1 32 s 0 (-1) > 0 then lastIndex1 32 s 0 (-1) + 1 else -1

theorem fragMax_bound (s : Bytes) : fragMax s + 2 ≤ s.length ∨ fragMax s ≤ 0 := by
  unfold fragMax
  suffices ∀ (l : List UInt8) (m : Int), (m + 2 ≤ s.length ∨ m ≤ 0) →
      (l.foldl (fun m p => if lastIndex2 p 32 s 0 (-1) > m then lastIndex2 p 32 s 0 (-1) else m) m + 2 ≤ s.length ∨
       l.foldl (fun m p => if lastIndex2 p 32 s 0 (-1) > m then lastIndex2 p 32 s 0 (-1) else m) m ≤ 0) from
    this seps (-1) (by omega)
  intro l
  induction l with
  | nil => exact fun m h => h
  | cons p l ih =>
    intro m h
    refine ih _ ?_
    have := lastIndex2_range p 32 s 0 (-1)
    dsimp only
    split <;> omega

theorem indexFragment_bound (s : Bytes) :
    indexFragment s = -1 ∨ (2 ≤ indexFragment s ∧ indexFragment s ≤ s.length) := by
  unfold indexFragment
  have h1 := fragMax_bound s
  have h2 := lastIndex1_range 32 s 0 (-1)
  split
  · omega
  · split <;> omega

def dots : Bytes := [46, 46, 46]

def cutIdx (msg : Bytes) (splitLen : Nat) : Nat :=
  if indexFragment (msg.take (splitLen - 3)) < 0 then splitLen - 3
  else (indexFragment (msg.take (splitLen - 3))).toNat

theorem cutIdx_bound (msg : Bytes) (splitLen : Nat) (h : 13 ≤ splitLen) (hl : splitLen < msg.length) :
    2 ≤ cutIdx msg splitLen ∧ cutIdx msg splitLen ≤ splitLen - 3 := by
  unfold cutIdx
  have hb := indexFragment_bound (msg.take (splitLen - 3))
  have : (msg.take (splitLen - 3)).length = splitLen - 3 := by simp; omega
  rw [this] at hb
  split <;> omega

/-- splitMessage's loop, after the splitLen default has been applied. -/
def splitLoop (msg : Bytes) (splitLen : Nat) (h : 13 ≤ splitLen) : List Bytes :=
  if hl : splitLen < msg.length then
    (msg.take (cutIdx msg splitLen) ++ dots) :: splitLoop (msg.drop (cutIdx msg splitLen)) splitLen h
  else [msg]
termination_by msg.length
decreasing_by
  have := cutIdx_bound msg splitLen h hl
  simp [List.length_drop]; omega

def splitMessage (msg : Bytes) (splitLen : Int) : List Bytes :=
  if h : splitLen < 13 then splitLoop msg 450 (by decide) else splitLoop msg splitLen.toNat (by omega)

end Go
