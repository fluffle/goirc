import Goirc.Spec.Net
import Goirc.Model.Client
import Goirc.Proofs.C13Main
import Goirc.Proofs.C13Safe
/-!
# C13 — Tracked state equals the server's ground truth for the client's channels

> With state tracking enabled, after any protocol-conformant server session - the client and other
> users joining, parting, being kicked, quitting and changing nick, topic and mode changes, with
> the NAMES, WHO and MODE replies a server gives - the tracker holds exactly the channels the
> client is on, exactly the users sharing them with their per-channel privileges as far as the
> protocol reveals them (the highest prefix shown by NAMES, then every MODE change) and their
> user@host details once a WHO reply has arrived, and those channels' topics and modes. Under
> arbitrary non-conformant lines the tracker still never loses the client's own entry, never
> tracks a channel without the client in it, and never keeps a user who shares no channel with it.

`Spec.Net` is the model network: `serverStep` performs an event on the ground truth, returns the
lines a server sends our client, and maintains `view` - what the protocol has disclosed - by its own
rules.  The client model parses each line and runs its built-in handlers over the heap-faithful
tracker model.  "Holds exactly" is stated through the tracker's own query operations, compared
(as finite maps) with the relational Spec's answers on `view`.

Reading added by the proof (the statement without it is false, see `nickHeadOk`): nicknames - the
client's, the other users', and every new nick of a NICK event - do not begin with `#` or with one
of the membership prefixes `~ & @ % +`, as on every real network (RFC 2812 nicknames begin with a
letter or one of `[ ] \ ` _ ^ { | }`).  Counterexamples without it: a user called `+bob` holding
no privilege is listed by NAMES as `+bob`, which the client reads as `bob` with voice; a client
called `#a` on channel `#a` reads its own user-mode change `:#a MODE #a +i` as a channel mode.
-/
namespace Props.C13
open Go Go.Client Go.Tracker Spec.Net

/-- feed server lines to the client model: parse, then the internal handler set -/
def feed (c : Client) : List Bytes → Client
  | [] => c
  | l :: ls => match parseLine c.ext l with
    | some ln => feed (dispatchInternal c ln).c ls
    | none => feed c ls

/-- run a session: the model network performs each conforming event and the client processes what it sends -/
def runNet : Net → Client → List Event → Net × Client
  | n, c, [] => (n, c)
  | n, c, e :: es =>
    if conforms n e then runNet (serverStep n e).1 (feed c (serverStep n e).2) es
    else runNet n c es

/-- `feed` here and `Proofs.C13.feed`, with which the proofs are stated (`C13Defs`, below this file in the import order), are
the same function; with `runNet_eq` this carries the proved statements over to the definitions above. -/
theorem feed_eq : ∀ ls c, feed c ls = Proofs.C13.feed c ls := by
  intro ls; induction ls with
  | nil => intro c; rfl
  | cons l ls ih =>
    intro c
    cases h : parseLine c.ext l <;> simp only [feed, Proofs.C13.feed, h] <;> exact ih _

theorem runNet_eq : ∀ es n c, runNet n c es = Proofs.C13.runNet n c es := by
  intro es; induction es with
  | nil => intro n c; rfl
  | cons e es ih =>
    intro n c
    by_cases h : conforms n e = true <;> simp only [runNet, Proofs.C13.runNet, feed_eq, h] <;> exact ih _ _

/-- the tracker answers every query exactly as the relational Spec does on the disclosed view -/
def Holds (st : St) (view : Spec.Tracker.S) : Prop :=
  (∀ name, Props.C12.RetEq (step st (.getNick name)).2 (Spec.Tracker.step view (.getNick name)).2) ∧
  (∀ name, Props.C12.RetEq (step st (.getChannel name)).2 (Spec.Tracker.step view (.getChannel name)).2) ∧
  (∀ c n, Props.C12.RetEq (step st (.isOn c n)).2 (Spec.Tracker.step view (.isOn c n)).2) ∧
  Props.C12.RetEq (step st .me).2 (Spec.Tracker.step view .me).2

/-- a nickname does not start with a channel prefix (`#`) or a membership prefix (`~ & @ % +`) -/
def nickHeadOk (s : Bytes) : Bool :=
  match s.head? with
  | some b => !([35, 126, 38, 64, 37, 43].contains b)
  | none => true

/-- sane names for the network: users and the client -/
def userOk (u : Bytes × NUser) : Prop :=
  nameOk u.1 = true ∧ nickHeadOk u.1 = true ∧ nameOk u.2.ident = true ∧ nameOk u.2.host = true ∧ textOk u.2.real = true ∧ u.2.real ≠ []

/-- a NICK event renames to a nickname (`conforms` already asks `nameOk` of it) -/
def eventOk : Event → Prop
  | .nick _ nw => nickHeadOk nw = true
  | _ => True

/-- the client after `EnableStateTracking` and the welcome line that tells it its ident and host -/
def startClient (me ident host real : Bytes) (ext : UnicodeExt) : Client :=
  let c : Client := { cfg := { meNick := me, meIdent := ident, meName := real }, newNick := defaultNewNick, ext := ext }
  feed (enableTracking c) [lit ":irc.test 001 " ++ me ++ lit " :Welcome " ++ me ++ [33] ++ ident ++ [64] ++ host]

/-- **C13, first sentence**: after any session of the model network, the tracker holds exactly what has been
disclosed: channels the client is on, the users sharing them with the disclosed privileges, their user@host
once known, topics and modes.  (`hdistinct` is idle in the proof: a name listed twice is looked up at its first entry
everywhere.) -/
theorem session_sim (me ident host real : Bytes) (others : List (Bytes × NUser)) (ext : UnicodeExt) (evs : List Event)
    (hme : userOk (me, ⟨ident, host, real⟩)) (hothers : ∀ u ∈ others, userOk u)
    (hdistinct : (me :: others.map (·.1)).Nodup) (hevs : ∀ e ∈ evs, eventOk e) :
    let r := runNet (start me ident host real others) (startClient me ident host real ext) evs
    ∃ st, r.2.st = some st ∧ Holds st r.1.view := by
  have _ := hdistinct   -- idle (see the docstring); mentioned so that the unused-variable linter is quiet
  have hstart : startClient me ident host real ext = Proofs.C13.startClient me ident host real ext := feed_eq _ _
  have hu : ∀ u, userOk u → Proofs.C13.nickOk u.1 = true ∧ nameOk u.2.ident = true ∧ nameOk u.2.host = true ∧ textOk u.2.real = true :=
    fun u h => ⟨by simp only [Proofs.C13.nickOk, Bool.and_eq_true]; exact ⟨h.1, h.2.1⟩, h.2.2.1, h.2.2.2.1, h.2.2.2.2.1⟩
  have hev : ∀ e ∈ evs, Proofs.C13.evOk e := fun e he => by
    have := hevs e he; cases e <;> first | exact this | trivial
  simp only [runNet_eq, hstart]
  exact Proofs.C13.session_core me ident host real others ext evs (hu _ hme) (fun u h => hu u (hothers u h)) hev

/-- what "safe" means on a tracker state, through its own queries: the client's entry exists; every tracked
channel has the client in it; every other tracked nick is on some tracked channel -/
def Safe (st : St) : Prop :=
  (∃ n, (step st .me).2 = .nick (some n) ∧ ∃ m, (step st (.getNick n.nick)).2 = .nick (some m)) ∧
  (∀ c cs, (step st (.getChannel c)).2 = .chan (some cs) →
     ∃ n, (step st .me).2 = .nick (some n) ∧ ∃ p, (step st (.isOn c n.nick)).2 = .privs p true) ∧
  (∀ u us, (step st (.getNick u)).2 = .nick (some us) →
     (∃ n, (step st .me).2 = .nick (some n) ∧ n.nick = u) ∨ us.channels ≠ [])

/-- **C13, second sentence**: whatever lines arrive - any byte strings at all - the tracker stays safe.  (`hme` is idle in the
proof: the statement holds for the empty nickname too.) -/
theorem safety_any_lines (me ident real : Bytes) (ext : UnicodeExt) (lines : List Bytes) (hme : me ≠ []) :
    let c0 : Client := { cfg := { meNick := me, meIdent := ident, meName := real }, newNick := defaultNewNick, ext := ext }
    ∃ st, (feed (enableTracking c0) lines).st = some st ∧ Safe st := by
  have _ := hme   -- idle (see the docstring); mentioned so that the unused-variable linter is quiet
  simp only [feed_eq]
  exact Proofs.C13.safety_core me ident real ext lines

/-- **a QUIT is a QUIT, with or without a message**: what the tracker does with it depends on who quit and on nothing else
of the line - not on the parameters (RFC 2812 3.1.7: the quit message is optional), the tags or the raw text -/
theorem quit_whatever_its_parameters (c : Go.Client.Client) (l l' : Go.Line) (h : l.nick = l'.nick) :
    Go.Client.h_QUIT c l = Go.Client.h_QUIT c l' := by
  simp [Go.Client.h_QUIT, h]

end Props.C13
