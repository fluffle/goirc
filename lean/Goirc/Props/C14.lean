import Goirc.Model.Snapshot
import Goirc.Model.Locked
import Goirc.Model.Tracker
import Goirc.Proofs.C14Snapshot
import Goirc.Proofs.C14Locked
/-!
# C14 — Tracker answers are private snapshots, and the tracker is safe to share

> Values returned by the tracker are copies: changing them never alters tracker state, and later
> tracker changes never alter a value returned earlier. Calls made concurrently from any number
> of goroutines are free of data races and behave as if executed one at a time in an order
> consistent with real time.

First half: heap model of `Nick()` / `Channel()` / `Copy()`; every exported method returns only
`nil` or the result of one of those (fact `trackerReturns`).  Second half: every exported method is
`Lock; defer Unlock; body` (fact `trackerLockDiscipline`), so the generic mutex LTS applies with
`f := Go.Tracker.step`; by C12 the sequential behaviour is the relational Spec's.  Data-race freedom
proper is a property of the Go memory model: it is argued from the lock discipline (every access to
shared state happens while holding the mutex - `access_only_by_holder`) and checked with the race
detector by the correspondence.
-/
namespace Props.C14
open Go.Snapshot

/-- every reference reachable from a returned snapshot was allocated by the call that returned it -/
theorem snapshot_fresh (h : Heap) (x : Internal) (hb : Bounded h) :
    ∀ r ∈ reach (snapshot h x).1 (snapshot h x).2, h.next ≤ r ∧ r < (snapshot h x).1.next :=
  (snapshot_spec h x hb).2.1

/-- the snapshot shows exactly what the tracker held at that moment -/
theorem snapshot_equal (h : Heap) (x : Internal) (hb : Bounded h)
    (hm : ∃ f, read h x.modes = some (.record f)) (hc : ∀ e ∈ x.cells, ∃ f, read h e.2 = some (.record f)) :
    view (snapshot h x).1 (snapshot h x).2 = viewInternal h x := by
  obtain ⟨fm, hfm⟩ := hm
  rw [(snapshot_spec h x hb).2.2 fun e he => (hc e he).elim fun _ hf => AL.Below.lt_of_lookup hb hf,
    viewInternal, copyObj_of_record hfm]
  congr 2
  exact List.map_congr_left fun e he => (hc e he).elim fun _ hf => by rw [copyObj_of_record hf]

/-- taking a snapshot changes nothing the tracker owns -/
theorem snapshot_preserves (h : Heap) (x : Internal) (hb : Bounded h) (r : Ref) (hr : r < h.next) :
    read (snapshot h x).1 r = read h r :=
  (snapshot_spec h x hb).1.read hr

/-- changing a returned value never alters tracker state: writes through references reachable from the
snapshot leave every object that existed before the call untouched -/
theorem caller_writes_invisible (h : Heap) (x : Internal) (hb : Bounded h) (ws : List (Ref × Obj))
    (hws : ∀ w ∈ ws, w.1 ∈ reach (snapshot h x).1 (snapshot h x).2) (r : Ref) (hr : r < h.next) :
    read (applyWrites (snapshot h x).1 ws) r = read h r := by
  rw [read_applyWrites, snapshot_preserves h x hb r hr]
  intro w hw e
  exact Nat.lt_irrefl _ (Nat.lt_of_lt_of_le hr (e ▸ (snapshot_fresh h x hb w.1 (hws w hw)).1))

/-- later tracker changes never alter a value returned earlier: any writes to objects that existed before
the call (everything the tracker owns) or to objects allocated after it leave the snapshot's view unchanged -/
theorem tracker_writes_invisible (h : Heap) (x : Internal) (hb : Bounded h) (ws : List (Ref × Obj))
    (hws : ∀ w ∈ ws, w.1 < h.next ∨ (snapshot h x).1.next ≤ w.1) :
    view (applyWrites (snapshot h x).1 ws) (snapshot h x).2 = view (snapshot h x).1 (snapshot h x).2 :=
  view_congr fun r hr => read_applyWrites ws _ r fun w hw e => by
    have h1 := snapshot_fresh h x hb r hr
    rcases hws w hw with h2 | h2
    · exact Nat.lt_irrefl _ (Nat.lt_of_lt_of_le (e ▸ h2) h1.1)
    · exact Nat.lt_irrefl _ (Nat.lt_of_lt_of_le h1.2 (e ▸ h2))

section locked
open Go.Locked
variable {σ Op Ret : Type}

/-- **atomicity**: in every reachable state the object is what running the operations one at a time, in
lock-acquisition order, produces, and every recorded return value is the sequential one -/
theorem locked_ops_atomic (f : σ → Op → σ × Ret) (x : σ) {s : St σ Op Ret} (h : Reach f x s) :
    seqRun f x (s.hist.map (·.2.1)) = (s.obj, s.hist.map (·.2.2)) :=
  atomic f x h

/-- the shared object is read or written only by the thread that holds the mutex -/
theorem access_only_by_holder (f : σ → Op → σ × Ret) (x : σ) {s s' : St σ Op Ret} (h : Reach f x s)
    (t : Tid) (hs : step f s (.body t) = some s') : s.mu = some t := by
  cases Step.of_step hs with
  | @body _ o hp => exact muInv f x h t (Or.inl ⟨o, hp⟩)

/-- **consistent with real time**: if operation A returned before operation B was called (in the real-time
log), then A comes before B in the serial order.

B's place in the serial order is the last entry `(tb, ob, _)` of `hist`.  Hypothesis `hdone` (B's body has run:
thread `tb` is not still waiting for, or holding, the mutex on behalf of `ob`) is needed: without it `tb` may run
`ob` to completion, then A runs to completion, then `tb` calls `ob` again and is still waiting - the only
`(tb, ob, _)` entry of `hist` is the one of the first call, and it precedes A.  `order_respects_real_time_nth` below
identifies B's entry exactly. -/
theorem order_respects_real_time (f : σ → Op → σ × Ret) (x : σ) {s : St σ Op Ret} (h : Reach f x s)
    (i j : Nat) (ta tb : Tid) (oa ob : Op) (ra : Ret)
    (hi : s.log[i]? = some (.ret ta oa ra)) (hj : s.log[j]? = some (.call tb ob)) (hij : i < j)
    (hdone : s.pc tb ≠ .waiting ob ∧ s.pc tb ≠ .holding ob)
    (rb : Ret) (kb : Nat) (hkb : s.hist[kb]? = some (tb, ob, rb))
    (hlast : ∀ k', kb < k' → ∀ r', s.hist[k']? ≠ some (tb, ob, r')) :
    ∃ ka, ka < kb ∧ s.hist[ka]? = some (ta, oa, ra) := by
  obtain ⟨st, I⟩ := inv f x h
  rcases I.call j tb ob hj with (h1 | h1) | ⟨k, r, n, h1, h2, h3⟩
  · exact absurd h1 hdone.1
  · exact absurd h1 hdone.2
  · have hk : k ≤ kb := by
      rcases Nat.lt_or_ge kb k with h' | h'
      · exact absurd h1 (hlast k h' r)
      · exact h'
    have hlen : kb < st.length := by rw [I.len]; exact List.lt_length_of_getElem? hkb
    have hst : st[kb]? = some st[kb] := List.getElem?_eq_getElem hlen
    have := I.mono k kb n st[kb] hk h2 hst
    exact I.before hi hij hst (by omega)

/-- the same, with B's entry identified exactly: each thread runs its operations one after the other, so the
n-th call event of thread `tb` in the log belongs to the n-th entry of thread `tb` in `hist`.  If A returned
before B's call event (position `j`), and `kb` is the entry of that very call, then A's entry comes first. -/
theorem order_respects_real_time_nth (f : σ → Op → σ × Ret) (x : σ) {s : St σ Op Ret} (h : Reach f x s)
    (i j : Nat) (ta tb : Tid) (oa ob ob' : Op) (ra : Ret)
    (hi : s.log[i]? = some (.ret ta oa ra)) (hj : s.log[j]? = some (.call tb ob')) (hij : i < j)
    (rb : Ret) (kb : Nat) (hkb : s.hist[kb]? = some (tb, ob, rb))
    (hnth : (s.hist.take (kb + 1)).countP (fun e => e.1 == tb) =
      (s.log.take (j + 1)).countP (fun e => match e with | .call t _ => t == tb | _ => false)) :
    ∃ ka, ka < kb ∧ s.hist[ka]? = some (ta, oa, ra) := by
  obtain ⟨st, I⟩ := inv f x h
  have hlen : kb < st.length := by rw [I.len]; exact List.lt_length_of_getElem? hkb
  have hst : st[kb]? = some st[kb] := List.getElem?_eq_getElem hlen
  exact I.before hi hij hst (I.stamp_after hj hkb hnth hst)

/-- every return in the log is the return value the serial order gives that operation -/
theorem returns_are_serial (f : σ → Op → σ × Ret) (x : σ) {s : St σ Op Ret} (h : Reach f x s)
    (t : Tid) (o : Op) (r : Ret) (hr : Ev.ret t o r ∈ s.log) : (t, o, r) ∈ s.hist := by
  obtain ⟨st, I⟩ := inv f x h
  obtain ⟨i, hi⟩ := List.getElem?_of_mem hr
  obtain ⟨k, _, hk, _⟩ := I.ret i t o r hi
  exact List.mem_of_getElem? hk

end locked

/-- instantiation: concurrent use of the tracker behaves as the sequential tracker model (and hence, by
Props.C12.tracker_refines, as the relational Spec) on the operations in lock order -/
theorem tracker_linearizable (me : Bytes) {s : Go.Locked.St Go.Tracker.St Go.Tracker.Op Go.Tracker.Ret}
    (h : Go.Locked.Reach Go.Tracker.step (Go.Tracker.new me) s) :
    Go.Locked.seqRun Go.Tracker.step (Go.Tracker.new me) (s.hist.map (·.2.1)) = (s.obj, s.hist.map (·.2.2)) :=
  locked_ops_atomic Go.Tracker.step (Go.Tracker.new me) h

end Props.C14
