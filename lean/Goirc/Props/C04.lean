import Goirc.Spec.HSet
import Goirc.Props.C14
import Goirc.Proofs.C04
/-!
# C04 — Every registered handler runs exactly once per matching event

> For any history of handler registrations (foreground and background) and removals, including
> ones made from inside running handlers, each incoming event invokes, once each and with names
> compared case-insensitively, exactly the foreground handlers registered under its name when it
> is dispatched and exactly the background handlers registered when its background dispatch
> begins; it never invokes a handler removed before that, nor one registered under a different
> name. Registering or removing handlers from within a handler neither deadlocks nor disturbs
> the other handlers of that event.

This file: the handler *set* (one `hSet`; the client has three of them) refines "name ↦ list of
handlers in registration order" for every history of add/remove in which each Remover is used at
most once.  The k-th Remover handed out is node id k.  That each snapshot element is invoked
exactly once, without the lock held, is `hSet.dispatch`'s fork/join (Props.C03 / the pinned body).
-/
namespace Props.C04
open Go.HSet Spec.HSet

/-- run a history on the model -/
def runM (ext : Go.UnicodeExt) : HS → List Op → HS
  | hs, [] => hs
  | hs, .add ev h :: ops => runM ext (add ext hs ev h).1 ops
  | hs, .remove k :: ops => runM ext (remove hs k) ops

/-- run it on the Spec; `n` = number of Removers handed out so far (the next id) -/
def runS (ext : Go.UnicodeExt) : S → Nat → List Op → S
  | s, _, [] => s
  | s, n, .add ev h :: ops => runS ext (Spec.HSet.add ext s ev n h) (n + 1) ops
  | s, n, .remove k :: ops => runS ext (Spec.HSet.remove s k) n ops

/-- each Remover is one that was handed out, and is used at most once -/
def Valid : Nat → List Nat → List Op → Prop
  | _, _, [] => True
  | n, used, .add _ _ :: ops => Valid (n + 1) used ops
  | n, used, .remove k :: ops => k < n ∧ k ∉ used ∧ Valid n (k :: used) ops

/-- the refinement invariant (`Go.HSet.Inv`, Proofs/C04) holds along every valid history -/
theorem run_inv (ext : Go.UnicodeExt) (ops : List Op) : ∀ (hs : HS) (s : S) (n : Nat) (used : List Nat),
    Inv hs s n used → Valid n used ops → ∃ n' used', Inv (runM ext hs ops) (runS ext s n ops) n' used' := by
  induction ops with
  | nil => intro hs s n used I _; exact ⟨n, used, I⟩
  | cons op ops ih =>
    intro hs s n used I hv
    cases op with
    | add ev h => exact ih _ _ _ _ (I.add ext ev h) hv
    | remove k => exact ih _ _ _ _ (I.remove k hv.1 hv.2.1) hv.2.2

/-- **refinement**: after any valid history, for every name the snapshot `getHandlers` takes is exactly the
Spec's list for that name (same nodes, registration order), the backward links give its reverse, and the
map holds no empty list -/
theorem hset_refines (ext : Go.UnicodeExt) (ops : List Op) (hv : Valid 0 [] ops) (name : Bytes) :
    let hs := runM ext {} ops
    let s := runS ext [] 0 ops
    getHandlers hs name = ((AL.lookup s name).getD []).map (·.1) ∧
    (match AL.lookup hs.set name with
     | some l => walkBwd hs (hs.nodes.length + 1) l.«end» = (((AL.lookup s name).getD []).map (·.1)).reverse ∧ l.start.isSome ∧ l.«end».isSome
     | none => (AL.lookup s name).getD [] = []) := by
  obtain ⟨n', used', I⟩ := run_inv ext ops {} [] 0 [] Inv.init hv
  exact ⟨I.getHandlers_eq name, I.links name⟩

/-- what an event invokes is exactly the Spec's handlers for its lower-cased name, once each, in order -/
theorem dispatch_exactly (ext : Go.UnicodeExt) (ops : List Op) (hv : Valid 0 [] ops) (cmd : Bytes) :
    dispatchList ext (runM ext {} ops) cmd = handlersFor ext (runS ext [] 0 ops) cmd := by
  obtain ⟨n', used', I⟩ := run_inv ext ops {} [] 0 [] Inv.init hv
  exact I.dispatchList_eq ext cmd

/-- names are compared case-insensitively on both sides: two event names with the same lower-case form
invoke the same handlers -/
theorem case_insensitive (ext : Go.UnicodeExt) (hs : HS) (a b : Bytes) (h : Go.toLower ext a = Go.toLower ext b) :
    dispatchList ext hs a = dispatchList ext hs b := by
  unfold dispatchList; rw [h]

/-- a removed handler is never invoked again, and removing one handler does not disturb the others of any
event: the Spec list only loses that node.

The hypothesis `hk` (each name occurs once in the Spec map) excludes maps with a shadowed entry, for which the
statement is false: for `s = [("a", [(0,7)]), ("a", [(1,8)])]`, `k = 0`, the left side is `[(1,8)]` (the first,
emptied entry is dropped and the shadowed second one becomes visible) and the right side is `[]`.  Every
Spec state reachable by `runS` satisfies `hk` (`reachable_keys_nodup`, `remove_only_that_reachable`). -/
theorem remove_only_that (s : S) (hk : (AL.keys s).Nodup) (k : Id) (name : Bytes) :
    ((AL.lookup (Spec.HSet.remove s k) name).getD []) = ((AL.lookup s name).getD []).filter (·.1 != k) :=
  lookup_remove_getD s hk k name

/-- the side condition of `remove_only_that` holds in every Spec state reached by any history (valid or not) -/
theorem reachable_keys_nodup (ext : Go.UnicodeExt) (ops : List Op) : ∀ (s : S) (n : Nat),
    (AL.keys s).Nodup → (AL.keys (runS ext s n ops)).Nodup := by
  induction ops with
  | nil => intro s n h; exact h
  | cons op ops ih =>
    intro s n h
    cases op with
    | add ev hd => exact ih _ _ (AL.nodup_insert h _ _)
    | remove k => exact ih _ _ (keys_remove_nodup s h k)

/-- `remove_only_that` without its side condition, for the Spec states that occur -/
theorem remove_only_that_reachable (ext : Go.UnicodeExt) (ops : List Op) (k : Id) (name : Bytes) :
    ((AL.lookup (Spec.HSet.remove (runS ext [] 0 ops) k) name).getD []) =
      ((AL.lookup (runS ext [] 0 ops) name).getD []).filter (·.1 != k) :=
  remove_only_that _ (reachable_keys_nodup ext ops [] 0 (by simp)) k name

/-- operations on a handler set as calls guarded by its lock (`add`/`remove` take `hs.Lock()`, `getHandlers`
takes `hs.RLock()`; treating the read lock as exclusive is sound for this statement because snapshots do not write) -/
inductive LOp
  | add (ev : Bytes) (h : Nat)
  | remove (k : Nat)
  | get (ev : Bytes)

def lstep (ext : Go.UnicodeExt) (hs : HS) : LOp → HS × List Id
  | .add ev h => ((add ext hs ev h).1, [(add ext hs ev h).2])
  | .remove k => (remove hs k, [])
  | .get ev => (hs, getHandlers hs ev)

/-- registrations / removals racing with dispatch from other goroutines: whatever the interleaving, the set is
always what executing the calls one at a time in lock order produces, and every snapshot a dispatch takes is the
one that serial execution gives (instance of `Props.C14.locked_ops_atomic`) -/
theorem hset_serialised (ext : Go.UnicodeExt) {s : Go.Locked.St HS LOp (List Id)}
    (h : Go.Locked.Reach (lstep ext) {} s) :
    Go.Locked.seqRun (lstep ext) {} (s.hist.map (·.2.1)) = (s.obj, s.hist.map (·.2.2)) :=
  Props.C14.locked_ops_atomic (lstep ext) {} h

end Props.C04
