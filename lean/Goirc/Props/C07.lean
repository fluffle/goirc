import Goirc.Model.Life
import Goirc.Proofs.C07
import Goirc.Proofs.C07Cancel
import Goirc.Proofs.C07Live
/-!
# C07 — Disconnect always completes, leaks nothing, and the client can reconnect

> Every disconnect finishes in bounded time - Close returns and DISCONNECTED is delivered - no
> matter how many received lines are still unprocessed, how many outgoing lines are queued or
> being rate-limited, or whether handlers are in the middle of sending. Afterwards none of the
> connection's goroutines remain, and the same client can connect again any number of times -
> from another goroutine or from inside the DISCONNECTED handler - each time getting a fresh
> connection that is unaffected by the teardown of the previous one: it stays up until something
> ends it, registration is sent, and the tracker, if enabled, is reset to just the client itself.

"Bounded time" = the teardown steps are always enabled until the teardown is over and they cannot
go on for ever (a well-founded measure decreases with every one of them), for every backlog of
unread lines, every queue content and every finite amount of sending that handlers and the ping
goroutine still do.  Wall-clock time is observed by the correspondence only.
-/
namespace Props.C07
open Go.Life

/-- **no deadlock in teardown**: as long as some closer is draining, some teardown step is enabled -/
theorem teardown_progress {s : St} (h : Reach s) (hd : Draining s) :
    ∃ l s', isTeardown l = true ∧ step s l = some s' :=
  Proofs.C07.teardown_progress h hd

/-- one teardown step: a step of a teardown label taken while somebody is draining -/
def TStep (s' s : St) : Prop := Reach s ∧ Draining s ∧ ∃ l, isTeardown l = true ∧ step s l = some s'

/-- **teardown terminates**: teardown steps cannot go on for ever - whatever the backlog of unread lines, the
queue contents, and the (finite, arbitrary) amount of sending handlers and the ping goroutine still do -/
theorem teardown_terminates : ∀ s, Acc TStep s :=
  Proofs.C07.teardown_acc

/-- when DISCONNECTED is dispatched for a connection that is still the current one, none of its goroutines
remain: the wait group is empty and send, recv, runLoop and ping have all left -/
theorem no_goroutine_left {s s' : St} (h : Reach s) (t : Tid) (g : Gen) (ht : s.thr t = .xDrain g)
    (hs : step s (.xFinish t) = some s') :
    s.g.wg = 0 ∧ s.g.recv = .gone ∧ s.g.send = .gone ∧ s.g.loop = .gone ∧ (s.g.ping = .gone ∨ s.g.ping = .absent) :=
  Proofs.C07.no_goroutine_left h ht hs

/-- the wait group counts exactly the goroutines that have not left -/
theorem wg_counts_live {s : St} (h : Reach s) :
    s.g.wg = (if s.g.recv = .gone then 0 else 1) + (if s.g.send = .gone then 0 else 1) + (if s.g.loop = .gone then 0 else 1) +
             (if s.g.ping = .gone ∨ s.g.ping = .absent then 0 else 1) :=
  (Proofs.C07.inv_reach h).wg

/-- **a fresh connection is unaffected by the teardown of the previous one**: whatever a straggler of an older
generation does, the current connection's flag, socket, context, queues and goroutines are untouched -/
theorem reconnect_fresh {s s' : St} (t : Tid) (g' : Gen) (ht : s.thr t = .xLocked (some g')) (hne : g' ≠ s.cur)
    (hs : step s (.xTest t) = some s') :
    s'.connected = s.connected ∧ s'.cur = s.cur ∧ s'.g.sockClosed = s.g.sockClosed ∧ s'.g.cancelled = s.g.cancelled ∧
    s'.g.wg = s.g.wg ∧ s'.g.inQ = s.g.inQ ∧ s'.g.outQ = s.g.outQ ∧
    s'.g.recv = s.g.recv ∧ s'.g.send = s.g.send ∧ s'.g.loop = s.g.loop ∧ s'.g.ping = s.g.ping :=
  Proofs.C07.reconnect_fresh ht hne hs

/-- only a thread that targets the current generation (or the public Close) can begin a disconnect -/
theorem only_own_generation_closes {s : St} (h : Reach s) (t : Tid) (g : Gen) (ht : s.thr t = .xDrain g) : g = s.cur :=
  ((Proofs.C07.inv_reach h).drain t g ht).1

/-- after a teardown the client can connect again: once nobody holds the mutex and the flag is clear, Connect succeeds,
creating a new generation with empty queues and all goroutines live -/
theorem can_reconnect (s : St) (t : Tid) (ping : Option Nat) (ht : s.thr t = .cLocked) (hc : s.connected = false) :
    ∃ s', step s (.cSucceed t ping) = some s' ∧ s'.cur = s.cur + 1 ∧ s'.connected = true ∧ s'.g.inQ = 0 ∧ s'.g.outQ = 0 ∧
      s'.g.recv = .reading ∧ s'.g.send = .idle ∧ s'.g.loop = .select ∧ s'.g.sockClosed = false ∧ s'.g.cancelled = false :=
  Proofs.C07.can_reconnect ht hc

/-- **no connection is made while a teardown is draining**: the drainer keeps `conn.mu` until the wait group is empty,
so a `Connect` cannot get to `postConnect` in between - which is why the queues, the wait group and the socket of the
old connection are never shared with a new one (a reconnect that overlapped the drain would have its lines eaten by it) -/
theorem no_connect_while_draining {s : St} (h : Reach s) (hd : Draining s) (t : Tid) (ping : Option Nat) :
    step s (.cSucceed t ping) = none := by
  obtain ⟨t', g, ht'⟩ := hd
  by_cases hc : s.thr t = .cLocked
  · have hm := (Proofs.C06.invS_reach h).holder
    cases ((hm t').mpr (.inr (.inr ⟨g, ht'⟩))).symm.trans ((hm t).mpr (.inl hc))
    rw [ht'] at hc
    cases hc
  · simp [step, hc]

/-! ### a disconnect that is asked for does begin (the watchdog goroutine, fix 9105b13 of the Go code)

The theorems above are about a teardown once some closer has passed the test-and-clear. These are about getting there
after the user's context is cancelled, whatever the connection's goroutines are doing - in particular with `send` inside
a write to a peer that has stopped reading (`peerStall`), `recv` inside a read and `runLoop` inside a handler that waits
for room in the output queue, when none of them is looking at `ctx.Done()`. -/

open Proofs.C07Cancel in
/-- **a cancelled context is never ignored**: while the connection is up and its context is cancelled, one of the steps
that lead to the teardown is enabled - the watchdog fires, a closer for this connection takes the free mutex or does
its test-and-clear, or whoever holds the mutex gets out of the way -/
theorem cancel_progress {s : St} (h : Reach s) (hc : s.connected = true) (hx : s.g.cancelled = true) :
    ∃ l s', isCloser l = true ∧ step s l = some s' :=
  Proofs.C07Cancel.cancel_progress h hc hx

open Proofs.C07Cancel in
/-- **and the teardown is at most four such steps away**, in every reachable state: (the mutex holder lets go,) (the
watchdog fires,) a closer for this connection locks and tests - after which the flag is clear and `teardown_progress` /
`teardown_terminates` take over. No step of `send`, `recv`, `runLoop`, `ping` or of the peer is needed. -/
theorem cancel_reaches_teardown {s : St} (h : Reach s) (hc : s.connected = true) (hx : s.g.cancelled = true) :
    ∃ ls s', run s ls = some s' ∧ ls.length ≤ 4 ∧ (∀ l ∈ ls, isCloser l = true) ∧ s'.connected = false ∧ Draining s' :=
  Proofs.C07Cancel.cancel_reaches_teardown h hc hx

open Proofs.C07Cancel in
/-- **the watchdog is what does it** (defect 12 as a state of the model): the history `stuckHistory` - one handler
emitting 34 lines, the peer stops reading, the context is cancelled - reaches a state with the connection up and the
context cancelled in which NOTHING the connection does on its own is enabled except the watchdog. A model without
`watchFire` is stuck there: no DISCONNECTED, `Connected()` true for ever. -/
theorem watchdog_is_needed :
    Reach stuck ∧ stuck.connected = true ∧ stuck.g.cancelled = true ∧
    ∀ l s', step stuck l = some s' → isOwn l = true → ∃ t, l = .watchFire t :=
  ⟨stuck_reach, by decide, by decide, stuck_only_watchdog⟩

/-- `P` holds now, or some step of kind `k` is enabled and `P` is inevitable after every enabled step of kind `k`:
"on every maximal run of `k`-steps, `P` comes to hold" (no fairness assumption; other kinds of steps quiet) -/
abbrev Inevitable := @Proofs.C07Live.Inevitable

open Proofs.C07Cancel in
/-- **after a cancellation the teardown begins on every maximal run of the connection's own steps** - its goroutines,
the watchdog, threads inside Connect / Close - whatever they do and in whatever order: `cancel_progress` says they
cannot all be stuck before the test-and-clear, and they cannot go on for ever (a well-founded measure over queue
contents, handler and ping fuel, program counters and the finitely many non-idle threads decreases) -/
theorem cancel_inevitable {s : St} (h : Reach s) (hc : s.connected = true) (hx : s.g.cancelled = true) :
    Inevitable isOwn (fun s => s.connected = false ∧ Draining s) s :=
  Proofs.C07Live.cancel_inevitable h hc hx

/-- **and a teardown that has begun is finished on every maximal run of teardown steps** (`teardown_progress` and
`teardown_terminates` combined): the drainer gets to `xFinish`, after which nobody is draining -/
theorem teardown_inevitable {s : St} (h : Reach s) (hd : Draining s) :
    Inevitable isTeardown (fun s => ¬ Draining s) s :=
  Proofs.C07Live.teardown_inevitable h hd

/-- non-vacuity: `stuck` meets the hypotheses of `cancel_progress` and `cancel_reaches_teardown` -/
example : ∃ s, Reach s ∧ s.connected = true ∧ s.g.cancelled = true :=
  ⟨Proofs.C07Cancel.stuck, watchdog_is_needed.1, watchdog_is_needed.2.1, watchdog_is_needed.2.2.1⟩

/-- a peer that has stopped reading cannot hold up a teardown that has begun: once the socket is closed, a write in
progress fails whether or not the peer is stalled (`stalled` is not in the guard of `sendFail`) -/
theorem stalled_write_fails_once_closed (s : St) (t : Tid) (hw : s.g.send = .writing) (hcl : s.g.sockClosed = true)
    (hi : s.thr t = .idle) : (step s (.sendFail t)).isSome = true := by
  simp [step, hw, hcl, hi]

end Props.C07
