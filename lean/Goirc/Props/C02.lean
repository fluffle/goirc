import Goirc.Proofs.Line
import Goirc.Model.LineGo
import Goirc.Proofs.C02
/-!
# C02 — No input from the server can crash the client or stop it processing

> Whatever bytes the server sends, the client process does not panic and the connection keeps
> working: every received line is either rejected or dispatched, and lines that follow it are
> still processed in order. Text, Target and Public never panic on a line the parser produced.

The readable model of `ParseLine` and of the accessors (`Go.parseLine`, `Line.text` ..) is total, with the guards folded into
pattern matches. `Go.LineGo` (Model/LineGo.lean) transcribes the same Go code literally, every index and slice expression an
operation that can fail; `parseLine_never_panics` and `accessors_never_panic` say that it never fails and returns the readable
model's result. That the Go code behaves like the models on the inputs tried, panics included, is the correspondence's job.
-/
namespace Props.C02
open Go Spec.Irc Go.LineGo

/-- every line is either rejected (`nil`) or yields a line whose accessors are all defined and
consistent — for every byte string and every behaviour of `ToUpper` on non-ASCII input -/
theorem rejected_or_accessible (ext : UnicodeExt) (s : Bytes) :
    parseLine ext s = none ∨
    ∃ l, parseLine ext s = some l ∧ accessorsOk l l.text l.public l.target = true := by
  cases h : parseLine ext s with
  | none => left; rfl
  | some l => right; exact ⟨l, rfl, Go.accessors_consistent l⟩

/-- the empty line, and a line consisting of a tag section or a source only, are rejected -/
theorem empty_rejected (ext : UnicodeExt) : parseLine ext [] = none := rfl

/-- **ParseLine never panics**: in the literal transcription - where every index and slice expression of the Go
source can fail - no byte string and no behaviour of ToUpper on non-ASCII input reaches a panic, and the result is
the readable model's -/
theorem parseLine_never_panics (ext : UnicodeExt) (s : Bytes) :
    parseLineGo ext s = .ok (parseLine ext s) :=
  parseLineGo_eq ext s

/-- **Text, Target and Public never panic** on any line at all (in particular on every line the parser produces),
and agree with the readable model -/
theorem accessors_never_panic (l : Line) :
    textGo l = .ok l.text ∧ publicGo l = .ok l.public ∧ targetGo l = .ok l.target :=
  ⟨textGo_eq l, publicGo_eq l, targetGo_eq l⟩

end Props.C02

