import Goirc.Model.Tracker
/-!
# C12: how return values are compared

Snapshots carry Go maps; they are compared as finite maps (`List.Perm` of the entry lists).
The simulation proof (`Goirc/Proofs/Tracker*.lean`) is stated with the same relation, so it lives below the proofs.
-/
namespace Props.C12
open Go.Tracker

def NickSnapEq (a b : NickSnap) : Prop :=
  a.nick = b.nick ∧ a.ident = b.ident ∧ a.host = b.host ∧ a.name = b.name ∧ a.modes = b.modes ∧
  List.Perm a.channels b.channels

def ChanSnapEq (a b : ChanSnap) : Prop :=
  a.name = b.name ∧ a.topic = b.topic ∧ a.modes = b.modes ∧ List.Perm a.nicks b.nicks

/-- equality of return values, maps compared as finite maps -/
def RetEq : Ret → Ret → Prop
  | .nick none, .nick none => True
  | .nick (some a), .nick (some b) => NickSnapEq a b
  | .chan none, .chan none => True
  | .chan (some a), .chan (some b) => ChanSnapEq a b
  | .privs p ok, .privs q ok' => p = q ∧ ok = ok'
  | .assoc p, .assoc q => p = q
  | .unit, .unit => True
  | _, _ => False

end Props.C12
