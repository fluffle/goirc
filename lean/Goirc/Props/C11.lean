import Goirc.Proofs.Split
/-!
# C11 — Long messages are split losslessly into bounded pieces

> Privmsg, Notice, Ctcp and CtcpReply (and the formatting variants) turn any text longer than
> SplitLen - 450 when SplitLen is unset or below 13 - into a finite sequence of messages to the
> same target whose text pieces are each at most SplitLen bytes long; every piece but the last
> ends in the continuation marker "...", no piece of a split text is empty, and joining the
> pieces without the markers reproduces the text exactly.

Quantifier: every text (any bytes) and every `Int` SplitLen.  No length bound anywhere.
The "same target" half is `Props.C08.privmsg_same_target` / `notice_same_target` and `Props.C11.privmsg_lines`,
`notice_lines`, `ctcp_lines` (C11Ext) over the command model.
-/
namespace Props.C11
open Go Spec.Split

theorem split_lossless (text : Bytes) (n : Int) : rejoin (splitMessage text n) = text := by
  obtain ⟨cs, last, e, hs⟩ := splitMessage_eq text n
  rw [e, rejoin_marked, hs.join]

theorem split_bounded (text : Bytes) (n : Int) : ∀ p ∈ splitMessage text n, p.length ≤ effLen n := by
  obtain ⟨cs, last, e, hs⟩ := splitMessage_eq text n
  intro p hp
  rw [e] at hp
  rcases mem_marked hp with ⟨c, hc, rfl⟩ | rfl
  · rw [List.length_append]; exact hs.chunk_le c hc
  · exact hs.last_le

theorem split_marker (text : Bytes) (n : Int) : markersOk (splitMessage text n) = true := by
  obtain ⟨cs, last, e, -⟩ := splitMessage_eq text n
  rw [e, markersOk_marked]

theorem split_short (text : Bytes) (n : Int) (hs : text.length ≤ effLen n) :
    splitMessage text n = [text] := by
  obtain ⟨h, e⟩ := splitMessage_eq_loop text n; rw [e]; exact splitLoop_short _ _ h hs

theorem split_nonempty (text : Bytes) (n : Int) (hs : 1 < (splitMessage text n).length) :
    ∀ p ∈ splitMessage text n, p ≠ [] := by
  obtain ⟨cs, last, e, hc⟩ := splitMessage_eq text n
  intro p hp
  rw [e] at hp
  rcases mem_marked hp with ⟨c, -, rfl⟩ | rfl
  · simp [Go.dots]
  · -- the empty text is not split
    refine hc.last_ne ?_
    rintro rfl
    rw [split_short [] n (Nat.zero_le _)] at hs
    exact absurd hs (by decide)

theorem split_long (text : Bytes) (n : Int) (hs : effLen n < text.length) :
    2 ≤ (splitMessage text n).length := by
  obtain ⟨cs, last, e, hc⟩ := splitMessage_eq text n
  have := List.length_pos_iff.2 (hc.ne_nil hs)
  rw [e, marked, List.length_append, List.length_map, List.length_singleton]; omega

/-- **C11, text half, in one statement**: the model's output satisfies the executable Spec
for every text and every SplitLen. -/
theorem split_ok (text : Bytes) (n : Int) : Spec.Split.ok n text (splitMessage text n) = true := by
  have h1 := split_lossless text n
  have h2 := split_bounded text n
  have h3 := split_marker text n
  have hne : splitMessage text n ≠ [] := by
    obtain ⟨cs, last, e, -⟩ := splitMessage_eq text n
    rw [e]; exact marked_ne_nil cs last
  unfold Spec.Split.ok
  simp only [Bool.and_eq_true, Bool.or_eq_true, Bool.not_eq_true', List.isEmpty_eq_false_iff,
    beq_iff_eq, List.all_eq_true, decide_eq_true_eq]
  refine ⟨⟨⟨⟨⟨hne, h1⟩, h2⟩, h3⟩, ?_⟩, ?_⟩
  · by_cases hl : (splitMessage text n).length ≤ 1
    · left; exact hl
    · right; intro p hp
      have := split_nonempty text n (by omega) p hp
      cases p <;> simp_all
  · intro hs; rw [split_short text n hs]; rfl

/-- non-vacuity: a concrete text that really is split -/
example : 2 ≤ (splitMessage (List.replicate 20 65) 13).length :=
  split_long _ _ (by simp [effLen])

end Props.C11
