import Goirc.Proofs.Commands
/-!
# C08 — Each API call writes only whole, single IRC commands of its own verb

> For every command method and every argument string - including ones with embedded CR or LF -
> the bytes put on the wire consist solely of CRLF-terminated lines with no CR or LF inside
> them, each beginning with the verb of the method that was called, so caller-supplied text can
> never start a second command.

Quantifier: every constructor of `Go.Cmd` (one per exported command method; `Privmsgln` and
`Privmsgf` are `privmsg` of the formatted string), every byte string in every argument position,
every `SplitLen`, every behaviour of `strings.ToUpper` on non-ASCII input (`ext`).
Reading: `Raw` has no verb of its own (`verbOf (.raw _) = []`), so only the single-line half
applies to it.
-/
namespace Props.C08
open Go Spec.Wire

/-- every line a call puts on the outgoing queue is free of CR/LF and begins with the call's verb -/
theorem wire_lines_clean (ext : UnicodeExt) (cfg : CmdCfg) (c : Cmd) :
    Spec.Wire.ok (verbOf c) (exec ext cfg c) = true := by
  unfold Spec.Wire.ok exec
  simp only [List.all_eq_true, List.mem_map]
  rintro l ⟨r, hr, rfl⟩
  exact lineOk_cut _ _ (verbOf_clean c) (rawArgs_prefix ext cfg c r hr)

/-- the bytes `write` emits for the call are exactly those lines, each followed by one CRLF, and
re-splitting the byte stream at CRLF gives back exactly those lines (nothing else, nothing merged) -/
theorem wire_bytes_ok (ext : UnicodeExt) (cfg : CmdCfg) (c : Cmd) :
    Spec.Wire.bytesOk (verbOf c) (wireBytes (exec ext cfg c)) = true := by
  have hcr : ∀ l ∈ exec ext cfg c, (13 : UInt8) ∉ l := by
    intro l hl
    obtain ⟨r, -, rfl⟩ := List.mem_map.1 hl
    exact (cutNewLines_clean r).1
  unfold bytesOk
  rw [splitCRLF_wire _ hcr]
  simp only [List.reverse_append, List.reverse_cons, List.reverse_nil, List.nil_append,
    List.singleton_append, List.isEmpty_nil, Bool.true_and, List.all_reverse]
  exact wire_lines_clean ext cfg c

/-- `cutNewLines` keeps exactly the longest prefix free of CR and LF -/
theorem cutNewLines_spec (s : Bytes) :
    ∃ t, s = cutNewLines s ++ t ∧ CR ∉ cutNewLines s ∧ LF ∉ cutNewLines s ∧
      (t = [] ∨ ∃ t', t = CR :: t' ∨ t = LF :: t') := by
  obtain ⟨t1, h1, c1⟩ := beforeByte_spec CR s
  obtain ⟨t2, h2, c2⟩ := beforeByte_spec LF (beforeByte CR s)
  refine ⟨t2 ++ t1, ?_, (cutNewLines_clean s).1, (cutNewLines_clean s).2, ?_⟩
  · unfold cutNewLines; rw [← List.append_assoc, ← h2, ← h1]
  · rcases c2 with rfl | ⟨t', rfl⟩
    · rcases c1 with rfl | ⟨t', rfl⟩
      · left; rfl
      · right; exact ⟨t', Or.inl rfl⟩
    · right; exact ⟨t' ++ t1, Or.inr rfl⟩

/-- `Raw` puts exactly one line on the queue -/
theorem raw_single (ext : UnicodeExt) (cfg : CmdCfg) (s : Bytes) :
    exec ext cfg (.raw s) = [cutNewLines s] := rfl

/-- C11's "to the same target": each PRIVMSG line is the fixed prefix followed by one piece of the split -/
theorem privmsg_same_target (ext : UnicodeExt) (cfg : CmdCfg) (t m : Bytes) :
    exec ext cfg (.privmsg t m) =
      (splitMessage m cfg.splitLen).map fun p => cutNewLines (V.PRIVMSG ++ [SP] ++ t ++ [SP, 58] ++ p) :=
  List.map_map

theorem notice_same_target (ext : UnicodeExt) (cfg : CmdCfg) (t m : Bytes) :
    exec ext cfg (.notice t m) =
      (splitMessage m cfg.splitLen).map fun p => cutNewLines (V.NOTICE ++ [SP] ++ t ++ [SP, 58] ++ p) :=
  List.map_map

/-- non-vacuity: an injection attempt through Nick is cut, not forwarded -/
example : exec ⟨id, id⟩ ⟨450, []⟩ (.nick (lit "evil\r\nQUIT")) = [lit "NICK evil"] := by decide +kernel

end Props.C08
