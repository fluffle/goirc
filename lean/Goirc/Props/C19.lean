import Goirc.Spec.Caps
import Goirc.Proofs.C19
/-!
# C19 — Capability negotiation asks only for what both sides support and always ends

> The client requests exactly the capabilities that are both wanted (those configured, plus sasl
> when SASL is configured) and advertised by the server, reports a capability as held exactly when
> the server's latest acknowledgement for it enabled it, and ends negotiation with CAP END after a
> NAK, after an ACK that does not start SASL, on an empty intersection, and after every SASL
> outcome (success, failure, mechanism not supported). SASL data is sent only after the server has
> acknowledged sasl and asked for it, encoded as the mechanism prescribes.

Readings: one `CAP * LS` reply (the client's `supported` set is empty before it); capability names
are non-empty, contain no space and do not start with '-'.
-/
namespace Props.C19
open Go Go.Client Spec.Caps

def capName (n : Bytes) : Prop := n ≠ [] ∧ (32 : UInt8) ∉ n ∧ n.head? ≠ some 45 ∧ CR ∉ n ∧ LF ∉ n

/-- after `CAP * LS :advertised` a fresh client sends END on an empty intersection and otherwise REQ
lines naming exactly wanted ∩ advertised, once each (each line ≤ 450 bytes when every name is short) -/
theorem req_is_intersection (c : Client) (adv : List Bytes)
    (hfresh : c.supported = []) (hw : ∀ n ∈ c.cfg.caps, capName n) (ha : ∀ n ∈ adv, capName n)
    (hshort : ∀ n ∈ c.cfg.caps, n.length ≤ 200) :
    okAfterLS c.cfg.caps c.cfg.sasl.isSome adv (negotiate c adv).out = true := by
  have hp : plain c.cfg.caps := fun n hn => (hw n hn).2.2.1
  have hpa : plain adv := fun n hn => (ha n hn).2.2.1
  obtain ⟨hnd, hmem⟩ := req_keys c adv hp hpa
  rw [negotiate_out c adv hfresh]
  refine lsOut_ok _ _ _ _ hnd hmem ?_
  intro n hn
  have hn' := (List.mem_filter.1 ((hmem n).1 hn)).1
  simp only [wanted, List.mem_append] at hn'
  rcases hn' with hn' | hn'
  · split at hn'
    · simp only [List.mem_singleton] at hn'; subst hn'
      exact ⟨by decide, by decide, by decide, by decide⟩
    · simp at hn'
  · obtain ⟨h1, h2, _, h4, h5⟩ := hw n hn'
    exact ⟨h1, h2, ⟨h4, h5⟩, hshort n hn'⟩

/-- a capability is reported as held exactly when the latest acknowledgement naming it enabled it -/
theorem held_iff_latest_ack (curr0 : List (Bytes × Bool)) (acks : List Bytes) (cap : Bytes)
    (h0 : curr0 = []) (hc : cap.head? ≠ some 45) :
    capHas (capAdd curr0 acks) cap = heldAfter acks cap := by
  subst h0
  rw [capHas_capAdd _ _ _ hc]
  rfl

/-- NAK ends negotiation -/
theorem ends_after_nak (c : Client) (l : Line) (h1 : l.args[1]? = some CAP_NAK) :
    (h_CAP c l).out = [CAPEND] := by
  rw [h_CAP_nak c l h1]

/-- an ACK ends negotiation unless it starts SASL (sasl configured and acknowledged), in which case the
mechanism name is sent instead -/
theorem ack_ends_or_starts_sasl (c : Client) (acked : List Bytes) (_hn : ∀ n ∈ acked, CR ∉ n ∧ LF ∉ n) :
    okAfterACK c.cfg.sasl acked (handleCapAck c acked).out = true := by
  unfold handleCapAck okAfterACK
  rw [capAckLoop_eq]
  cases c.cfg.sasl with
  | none => simp [emit_capEnd]
  | some s =>
    by_cases hc : saslCap ∈ acked
    · have : acked.count saslCap ≠ 0 := Nat.pos_iff_ne_zero.1 (List.count_pos_iff.2 hc)
      simp [hc, this]
    · simp [hc, List.count_eq_zero_of_not_mem hc, emit_capEnd]

/-- every SASL outcome ends negotiation: 903, 904, and 908 (which carries the mechanism list) -/
theorem ends_after_903 (c : Client) (l : Line) : (h_903 c l).out = [CAPEND] := emit_capEnd c
theorem ends_after_904 (c : Client) (l : Line) : (h_904 c l).out = [CAPEND] := emit_capEnd c
theorem ends_after_908 (c : Client) (l : Line) (h : (l.args[1]?).isSome) : (h_908 c l).out = [CAPEND] := by
  obtain ⟨a, ha⟩ := Option.isSome_iff_exists.1 h
  simp [h_908, arg, ha, emit_capEnd]

/-- the SASL payload is the mechanism's: sent when the server asks (AUTHENTICATE) after the ACK -/
theorem sasl_payload (c : Client) (s : Sasl) (l : Line) (hs : c.cfg.sasl = some s)
    (hr : c.saslRemaining = some (saslStart s).2) :
    (h_AUTHENTICATE c l).out = [payload s] ∧ (h_AUTHENTICATE c l).c.saslRemaining = none := by
  simp only [h_AUTHENTICATE, hs, hr, and_true]
  cases s with
  | plain i u p =>
    have : (i ++ [0] ++ u ++ [0] ++ p).length > 0 := by simp; omega
    simp only [saslStart, payload, this, if_true]
    exact exec_authenticate _ _ _ (b64encode_clean _)
  | external i =>
    simp only [saslStart, payload]
    cases i with
    | nil => exact exec_authenticate _ _ _ (by decide)
    | cons x i => exact exec_authenticate _ _ _ (b64encode_clean _)

/-- SASL data is sent only when asked: without a pending initial response (set only by an ACK of sasl)
an AUTHENTICATE line from the server produces no output at all -/
theorem sasl_only_when_asked (c : Client) (l : Line) (hr : c.saslRemaining = none) :
    (h_AUTHENTICATE c l).out = [] := by
  simp only [h_AUTHENTICATE, hr]
  split
  · rfl
  · split <;> rfl

/-- the pending initial response is set only by acknowledging sasl with SASL configured: no other
handler output contains an AUTHENTICATE line, and no other handler sets `saslRemaining` -/
theorem sasl_pending_only_after_ack (c : Client) (l : Line) (hr : c.saslRemaining = none)
    (hcmd : toLower c.ext l.cmd ≠ lit "cap") :
    (dispatchInternal c l).c.saslRemaining = none := by
  rw [dispatchInternal_eq, dispTail_sasl]
  unfold dispHead
  split
  · rename_i h hh; exact intHandler_sasl_none hh hcmd c l hr
  · exact hr


/-- `initialise()` (run by every Connect) leaves no capability advertised or held: the hypothesis `c.supported = []`
of `req_is_intersection` is what the code establishes at the start of EVERY connection, not only of the first
(otherwise a second connection would ask its server for what the first server had advertised) -/
theorem connect_forgets_capabilities (c : Client) :
    (wipeOnConnect c).supported = [] ∧ (wipeOnConnect c).curr = [] ∧ (wipeOnConnect c).cfg = c.cfg := by
  refine ⟨rfl, rfl, ?_⟩
  simp only [wipeOnConnect, tk]
  cases c.st <;> rfl

/-- on every connection - the first or a later one of the same client, whatever earlier servers advertised or
acknowledged - the request after `CAP * LS :advertised` names exactly wanted ∩ advertised -/
theorem req_is_intersection_every_connection (c : Client) (adv : List Bytes)
    (hw : ∀ n ∈ c.cfg.caps, capName n) (ha : ∀ n ∈ adv, capName n) (hshort : ∀ n ∈ c.cfg.caps, n.length ≤ 200) :
    okAfterLS c.cfg.caps c.cfg.sasl.isSome adv (negotiate (wipeOnConnect c) adv).out = true := by
  have h := connect_forgets_capabilities c
  have := req_is_intersection (wipeOnConnect c) adv h.1 (by rw [h.2.2]; exact hw) ha (by rw [h.2.2]; exact hshort)
  rw [h.2.2] at this
  exact this


/-- a configured SASL mechanism switches negotiation on, whatever the application left in the flag (`Client()`), so the
client of such a configuration asks for `sasl` as soon as the server advertises it -/
theorem sasl_switches_negotiation_on (cfg : Config) (h : cfg.sasl.isSome) : (clientConfig cfg).capNeg = true := by
  simp [clientConfig, h]

/-- **a refused request changes nothing**: whatever a CAP NAK names - capabilities that are enabled, a `-cap`, unknown ones -
the client is exactly as it was: what it holds is still what the latest acknowledgement said, what the server supports
still what it advertised (and `ends_after_nak`: the reply is CAP END) -/
theorem nak_changes_nothing (c : Client) (l : Line) (h1 : l.args[1]? = some CAP_NAK) :
    (h_CAP c l).c = c ∧ (h_CAP c l).panicked = false := by
  rw [h_CAP_nak c l h1]; exact ⟨rfl, rfl⟩

end Props.C19
