import Goirc.Proofs.Flood
import Goirc.Spec.Flood
/-!
# C10 — Flood protection follows Hybrid's penalty rule

> With flood protection on (the default) each outgoing line is charged 2 s plus 1/120 s per
> character against a penalty that decays in real time and never drops below zero, and a line is
> held back, for its own charge, before being written exactly when the penalty exceeds 10 s.
> Consequently, for any run of consecutive lines on the wire, their total charge never exceeds
> the wall-clock time between the first and last write by more than 10 s plus two lines' charges.
> With Flood set no line is ever delayed.

Quantifier: every sequence of line lengths and every assignment of clock readings that respects
monotonicity and "a sleep is not cut short" (`Valid`) — i.e. every idle gap and every scheduling
delay.  Reading of "two lines' charges": the charges of the first two lines of the run.
-/
namespace Props.C10
open Go.Flood

/-- the charge: 2 s plus 1/120 s per character (integer nanoseconds, as Go computes it) -/
theorem charge_def (chars : Nat) : charge chars = 2000000000 + (chars : Int) * 1000000000 / 120 := rfl

/-- penalty' = max 0 (penalty + charge − elapsed): decays in real time, floored at zero -/
theorem penalty_step (chars : Nat) (b e : Int) :
    (rate chars b e).1 = max 0 (b + charge chars - e) :=
  rate_penalty chars b e

theorem penalty_nonneg_step (chars : Nat) (b e : Int) : 0 ≤ (rate chars b e).1 := by
  rw [penalty_step]; omega

/-- held back, for its own charge, exactly when the (new) penalty exceeds 10 s -/
theorem held_iff (chars : Nat) (b e : Int) :
    (rate chars b e).2 = if (rate chars b e).1 > 10000000000 then charge chars else 0 :=
  rate_hold chars b e

theorem held_nonzero_iff (chars : Nat) (b e : Int) :
    (rate chars b e).2 ≠ 0 ↔ (rate chars b e).1 > 10000000000 := by
  have := charge_pos chars
  have := second_pos
  rw [held_iff]; split <;> omega

/-- in every state reachable from a fresh client the penalty is non-negative, and a penalty above
10 s is covered by time the last line was really held: penalty + lastsent ≤ 10 s + last write -/
theorem penalty_invariant (t0 : Int) (es : List Ev) (hv : Valid (fresh t0) t0 es) :
    0 ≤ (final (fresh t0) es).badness ∧
    (final (fresh t0) es).badness + (final (fresh t0) es).lastsent ≤ 10 * second + lastW t0 es := by
  have := inv_final _ _ es (inv_fresh t0) hv
  exact ⟨this.1, this.2.2⟩

/-- **window bound**, from any state satisfying the invariant: the total charge of the run
`e1 :: more` exceeds the wall-clock time between its first and last write by at most 10 s plus the
charges of its first two lines -/
theorem window_bound_from (s : St) (pw : Int) (hI : Inv s pw) (e1 : Ev) (more : List Ev)
    (hv : Valid s pw (e1 :: more)) :
    totalCharge (e1 :: more) ≤ (lastW e1.w more - e1.w) + 10 * second + charge e1.chars +
      headCharge more :=
  Go.Flood.window_bound_from s pw hI e1 more hv

/-- **C10 window bound**: for any run of consecutive lines anywhere in the history of a fresh client
(`pre` before it, `post` after it) -/
theorem window_bound (t0 : Int) (pre post : List Ev) (e1 : Ev) (more : List Ev)
    (hv : Valid (fresh t0) t0 (pre ++ (e1 :: more) ++ post)) :
    totalCharge (e1 :: more) ≤ (lastW e1.w more - e1.w) + 10 * second + charge e1.chars +
      headCharge more := by
  rw [List.append_assoc, valid_append] at hv
  obtain ⟨hpre, hrest⟩ := hv
  rw [valid_append] at hrest
  exact window_bound_from _ _ (inv_final _ _ pre (inv_fresh t0) hpre) e1 more hrest.1

/-- with Flood set no line is ever delayed (and the penalty is not even touched) -/
theorem flood_never_delays (s : St) (e : Ev) : writeStep true s e = (s, 0) := rfl

/-- with protection on, `write` holds the line for exactly what `rateLimit` returned -/
theorem protected_delay (s : St) (e : Ev) : (writeStep false s e).2 = delay s e := by
  unfold writeStep; rfl

/-- the model meets the executable per-call Spec that the driver evaluates on the implementation -/
theorem rate_meets_spec (chars : Nat) (b e : Int) (hb : 0 ≤ b) :
    Spec.Flood.okCall chars b e e (rate chars b e).2 (rate chars b e).1 = true := by
  have hp := penalty_step chars b e
  have hh := held_iff chars b e
  have hc : charge chars = 2 * 1000000000 + (chars : Int) * 1000000000 / 120 := rfl
  generalize (rate chars b e).1 = b' at hp hh
  generalize (rate chars b e).2 = r at hh
  subst hh
  simp only [Spec.Flood.okCall, ← hc, Bool.and_eq_true, decide_eq_true_eq, beq_iff_eq]
  refine ⟨⟨by omega, ?_⟩, rfl⟩
  split <;> simp only [decide_eq_true_eq] <;> omega

/-- non-vacuity: a burst of six empty lines at one instant is a valid run in which the sixth is held -/
example : delay (final (fresh 0) (List.replicate 5 ⟨0, 0, 0, 0⟩)) ⟨0, 0, 0, 0⟩ = 2000000000 := by decide +kernel
example : Valid (fresh 0) 0 (List.replicate 5 ⟨0, 0, 0, 0⟩) := by
  simp [Valid, List.replicate, delay, next, fresh, rate, charge, second]

end Props.C10
