import Goirc.Props.C11
import Goirc.Proofs.Commands
/-!
# C11, continued: at the command level - `Privmsg` / `Notice` / `Ctcp` queue exactly one line per piece of `splitMessage`, same target
-/
namespace Props.C11
open Go

/-- C11 at the command level: for a target and text free of CR / LF, `Privmsg` queues exactly one line per piece of
`splitMessage`, each the fixed prefix `PRIVMSG <t> :` followed by that piece (so: same target, and the pieces obey
`Props.C11.split_ok`) -/
theorem privmsg_lines (ext : UnicodeExt) (cfg : CmdCfg) (t m : Bytes)
    (ht : CR ∉ t ∧ LF ∉ t) (hm : CR ∉ m ∧ LF ∉ m) :
    exec ext cfg (.privmsg t m) = (splitMessage m cfg.splitLen).map fun p => V.PRIVMSG ++ [SP] ++ t ++ [SP, 58] ++ p :=
  exec_of_clean _ _ _ <| List.forall_mem_map.2 fun p hp =>
    Clean.append (Clean.append (Clean.append (by decide) ht) (by decide)) (splitMessage_clean m _ hm p hp)

theorem notice_lines (ext : UnicodeExt) (cfg : CmdCfg) (t m : Bytes)
    (ht : CR ∉ t ∧ LF ∉ t) (hm : CR ∉ m ∧ LF ∉ m) :
    exec ext cfg (.notice t m) = (splitMessage m cfg.splitLen).map fun p => V.NOTICE ++ [SP] ++ t ++ [SP, 58] ++ p :=
  exec_of_clean _ _ _ <| List.forall_mem_map.2 fun p hp =>
    Clean.append (Clean.append (Clean.append (by decide) ht) (by decide)) (splitMessage_clean m _ hm p hp)

/-- `Ctcp` / `CtcpReply` / `Action`: one line per piece of the split of the joined arguments, the piece (if non-empty)
preceded by a space, wrapped in \x01 ... \x01 after the upper-cased CTCP verb -/
theorem ctcp_lines (ext : UnicodeExt) (cfg : CmdCfg) (t c : Bytes) (arg : List Bytes)
    (ht : CR ∉ t ∧ LF ∉ t) (hc : CR ∉ toUpper ext c ∧ LF ∉ toUpper ext c) (ha : CR ∉ join [SP] arg ∧ LF ∉ join [SP] arg) :
    exec ext cfg (.ctcp t c arg) = (splitMessage (join [SP] arg) cfg.splitLen).map fun s =>
      V.PRIVMSG ++ [SP] ++ t ++ [SP, 58, 1] ++ toUpper ext c ++ (if s == [] then [] else [SP] ++ s) ++ [1] := by
  refine exec_of_clean _ _ _ <| List.forall_mem_map.2 fun p hp => ?_
  have hp' := splitMessage_clean _ _ ha p hp
  have hif : Clean (if p == [] then [] else [SP] ++ p) := by
    split
    · exact ⟨List.not_mem_nil, List.not_mem_nil⟩
    · exact Clean.append (by decide) hp'
  exact Clean.append (Clean.append (Clean.append (Clean.append (Clean.append (by decide) ht) (by decide)) hc) hif) (by decide)

end Props.C11
