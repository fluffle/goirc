import Goirc.Spec.Register
import Goirc.Model.Life
import Goirc.Proofs.C18
/-!
# C18 — Registration and keep-alive follow the protocol

> On every successful connect the client sends, once each and in this relative order, CAP LS (only
> if capability negotiation is enabled), PASS (only if a password is set), NICK with its current
> nick and USER with its ident and real name, after dialling the configured address with port
> 6667 - 6697 with SSL - added only when none was given. It answers every server PING that
> carries a token with a PONG carrying the same token, and it sends PINGs of its own periodically
> exactly when PingFreq is positive.

Of the periodic-ping half, `ping_goroutine_iff` says when the ping goroutine exists (in the lifecycle model of `Go.Life`); that
`postConnect` starts it on `PingFreq > 0` is a fact (FactsCheck), and that PINGs then go out periodically is runtime behaviour, an
observation of the correspondence.
-/
namespace Props.C18
open Go Go.Client Spec.Register

def clean (s : Bytes) : Prop := CR ∉ s ∧ LF ∉ s

/-- REGISTER puts exactly CAP LS?, PASS?, NICK, USER on the queue, once each, in this order -/
theorem register_order (c : Client) (l : Line) (hme : c.cfg.meNil = false)
    (h1 : clean c.cfg.pass) (h2 : clean c.cfg.meNick) (h3 : clean c.cfg.meIdent) (h4 : clean c.cfg.meName) :
    (h_REGISTER c l).out = expected c.cfg.capNeg c.cfg.pass c.cfg.meNick c.cfg.meIdent c.cfg.meName ∧
    (h_REGISTER c l).panicked = false := by
  refine ⟨?_, by simp [h_REGISTER, hme]⟩
  simp only [h_REGISTER_out, hme, expected, Bool.false_eq_true, if_false, emit, CAP_LS, exec_cap_ls,
    exec_pass _ _ _ h1, exec_nick _ _ _ h2, exec_user _ _ _ _ h3 h4]
  cases c.cfg.capNeg <;> by_cases hp : c.cfg.pass = [] <;> simp [hp]

/-- **"NICK with its current nick", across a reconnect**: a client (no state tracking) whose nick was refused during
registration goes by the generator's next nick from then on, and that - not the nick it was configured with - is what the
next REGISTER (the next connection) asks for; everything else of the registration is as configured -/
theorem register_after_collision (c : Client) (l lr : Line) (hst : c.st = none) (hme : c.cfg.meNil = false)
    (h : l.args[1]? = some c.cfg.meNick)
    (h1 : clean c.cfg.pass) (h2 : clean (c.newNick c.cfg.meNick)) (h3 : clean c.cfg.meIdent) (h4 : clean c.cfg.meName) :
    (h_REGISTER (h_433 c l).c lr).out =
      expected c.cfg.capNeg c.cfg.pass (c.newNick c.cfg.meNick) c.cfg.meIdent c.cfg.meName := by
  have hc : (h_433 c l).c = { c with cfg := { c.cfg with meNick := c.newNick c.cfg.meNick } } := by
    simp [h_433, refreshMe, hst, hme, arg, h]
  rw [hc]
  exact (register_order _ lr (by simpa using hme) (by simpa using h1) (by simpa using h2) (by simpa using h3) (by simpa using h4)).1

/-- `Spec.Register.hasPort`, the transcription of connection.go's `hasPort` (Go int comparison with -1), is the Spec's "has an
explicit port" -/
theorem hasPort_iff (s : Bytes) : hasPort s = hasExplicitPort s := by
  cases h58 : lastIndexByte s 58 <;> cases h93 : lastIndexByte s 93 <;>
    simp [hasPort, hasExplicitPort, h58, h93] <;> omega

theorem dial_addr_explicit (ssl : Bool) (server : Bytes) (h : hasExplicitPort server = true) :
    dialAddr ssl server = server := by
  simp [dialAddr, hasPort_iff, h]

/-- a server name with no port (no ':' and no '%' in it) gets :6667, or :6697 with SSL, and computing the address again from the
result (a reconnect) changes nothing; a name with an explicit port is `dial_addr_explicit` -/
theorem dial_addr (ssl : Bool) (server : Bytes) (h1 : (58 : UInt8) ∉ server) (h2 : (37 : UInt8) ∉ server) :
    dialAddr ssl server = server ++ [58] ++ (if ssl then lit "6697" else lit "6667") ∧
    dialAddr ssl (dialAddr ssl server) = dialAddr ssl server := by
  have hp : hasPort server = false := by
    rw [hasPort_iff]; simp [hasExplicitPort, lastIndexByte_not_mem 58 server h1]
  have e : dialAddr ssl server = server ++ [58] ++ (if ssl then lit "6697" else lit "6667") := by
    simp [dialAddr, hp, joinHostPort, h1, h2]
  rw [e]
  exact ⟨rfl, dial_addr_explicit ssl _ (hasExplicitPort_append server _ (by cases ssl <;> decide)
    (by cases ssl <;> decide))⟩

theorem dial_addr_spec (ssl : Bool) (server : Bytes) (h : hasExplicitPort server = true ∨ ((58 : UInt8) ∉ server ∧ (37 : UInt8) ∉ server)) :
    dialAddr ssl server = expectedAddr ssl server := by
  rcases h with h | ⟨h1, h2⟩
  · rw [dial_addr_explicit ssl server h]; simp [expectedAddr, h]
  · rw [(dial_addr ssl server h1 h2).1]
    simp [expectedAddr, hasExplicitPort, lastIndexByte_not_mem 58 server h1]

/-- every shape RFC 2812 3.7.2 allows (`PING tok`, `PING tok server2`, `:src PING tok :text` …): whatever the source and
whatever follows, a PING event whose FIRST parameter is `tok` is answered by exactly one line, `PONG :tok` (echoing
the last parameter instead would pass every test with a single parameter) -/
theorem pong_first_parameter (c : Client) (l : Line) (tok : Bytes) (rest : List Bytes)
    (hcmd : l.cmd = lit "PING") (hargs : l.args = tok :: rest) (h : clean tok) :
    (dispatchInternal c l).out = [lit "PONG :" ++ tok] := by
  rw [dispatchInternal_int (h := h_PING) (by rw [hcmd]; rfl) (by rw [hcmd]; rfl)]
  simp only [h_PING, arg, hargs, List.getElem?_cons_zero, emit, exec_pong _ _ tok h]

/-- every PING carrying a token (any bytes but CR/LF; empty, with spaces, with colons) is answered by
exactly one line, `PONG :token`, and parsing that line gives the same token back -/
theorem pong_same_token (c : Client) (tok : Bytes) (h : clean tok) :
    ∃ l, parseLine c.ext (lit "PING :" ++ tok) = some l ∧
      (dispatchInternal c l).out = [lit "PONG :" ++ tok] ∧
      ∃ l', parseLine c.ext (lit "PONG :" ++ tok) = some l' ∧ l'.args = [tok] :=
  ⟨_, parse_ping c.ext tok, pong_first_parameter c _ tok [] rfl rfl h, _, parse_pong c.ext tok, rfl⟩

/-- the ping goroutine exists exactly when the connection was made with client pings on (`PingFreq > 0`, the
`some` case of `postConnect`'s branch; fact `shape_Conn_postConnect`), and the wait group counts it -/
theorem ping_goroutine_iff (s s' : Go.Life.St) (t : Go.Life.Tid) (ping : Option Nat)
    (hs : Go.Life.step s (.cSucceed t ping) = some s') :
    (s'.g.ping ≠ .absent ↔ ping.isSome) ∧ s'.g.wg = (if ping.isSome then 4 else 3) := by
  simp only [Go.Life.step] at hs
  split at hs
  · simp only [Option.some.injEq] at hs
    subst hs
    cases ping <;> simp
  · simp at hs

end Props.C18
