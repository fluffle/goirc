import Goirc.Model.Copy
import Goirc.Proofs.C15
import Goirc.Proofs.ListLemmas
/-!
# C15 — Each handler invocation gets its own copy of the line

> Every handler invocation receives a line equal to the parsed event but sharing no mutable
> storage (arguments, tags) with the line given to any other invocation, concurrent or later, so
> a handler that edits its line cannot change what any other handler observes.

`Go.Copy` is a heap model: a `Line` value holds a reference to the backing array of `Args` and,
when it has tags, a reference to the `Tags` map; `copyLine` is `Line.Copy()` (fresh array, fresh
map); `dispatchCopies` is the loop of `hSet.dispatch`, which evaluates `line.Copy()` once per
handler.  Writing through a reference is the only way to mutate shared storage.
-/
namespace Props.C15
open Go.Copy

/-- every copy holds the same contents as the dispatcher's line -/
theorem copies_equal (h : Heap) (l : LineV) (n : Nat) (hw : WF h l) :
    ∀ c ∈ (dispatchCopies h l n).2, contents (dispatchCopies h l n).1 c = contents h l :=
  (dispatchCopies_spec n hw).2.2.2

/-- the references handed to the n invocations are pairwise distinct, and none of them is a reference of the
dispatcher's own line: no two invocations (of this event, in any of the three handler sets, since each set's
dispatch makes its own copies from the same original) share mutable storage -/
theorem copies_disjoint (h : Heap) (l : LineV) (n : Nat) (hw : WF h l) :
    (((dispatchCopies h l n).2.flatMap refs)).Nodup ∧
    ∀ c ∈ (dispatchCopies h l n).2, ∀ r ∈ refs c, r ∉ refs l := by
  obtain ⟨_, hrefs, hnd, _⟩ := dispatchCopies_spec n hw
  exact ⟨hnd, fun c hc r hr hrl => Nat.lt_irrefl _ (Nat.lt_of_lt_of_le (hw.lt hrl) (hrefs c hc r hr).1)⟩

/-- a handler that edits its line — any sequence of writes through the references of its own copy — cannot
change what any other invocation, or the dispatcher, observes -/
theorem scribble_invisible (h : Heap) (l : LineV) (n : Nat) (hw : WF h l) (i j : Nat) (hij : i ≠ j)
    (ci cj : LineV) (hi : (dispatchCopies h l n).2[i]? = some ci) (hj : (dispatchCopies h l n).2[j]? = some cj)
    (ws : List Write) (hws : ∀ w ∈ ws, w.ref ∈ refs ci) :
    contents (applyWrites (dispatchCopies h l n).1 ws) cj = contents (dispatchCopies h l n).1 cj ∧
    contents (applyWrites (dispatchCopies h l n).1 ws) l = contents (dispatchCopies h l n).1 l := by
  have hd := copies_disjoint h l n hw
  constructor
  · apply contents_applyWrites
    intro w hw'
    exact List.disjoint_of_nodup_flatMap refs _ hd.1 i j ci cj hij hi hj w.ref (hws w hw')
  · apply contents_applyWrites
    intro w hw'
    exact hd.2 ci (List.mem_of_getElem? hi) w.ref (hws w hw')

end Props.C15

