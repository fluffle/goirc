import Goirc.Props.C03
/-!
# C05 — State tracking is applied before user handlers observe a line

> With state tracking enabled, whenever a user handler (foreground or background) runs for a
> server line, the tracker already reflects that line; and while a foreground handler runs, the
> tracker does not yet reflect any later line.

In the Dispatch LTS `applied` counts the lines whose internal phase — which contains every state
handler (fact `table_stHandlers` + pinned `addSTHandlers`: they are registered in the internal
set) — has completed; handler events carry the value of `applied` they observe.
-/
namespace Props.C05
open Go.Dispatch Spec.Dispatch

/-- in every reachable state's history: a foreground handler of line k observed exactly lines 0..k applied, at
entry and at exit (so the tracker reflects its line and no later one), and a background handler observed at
least those -/
theorem tracker_reflects_line {s : St} (h : Reach s) : trackerTiming s.log = true :=
  (Proofs.C03.inv_reach h).tt

/-- spelled out for one event -/
theorem fg_sees_exactly_its_line {s : St} (h : Reach s) (k i a : Nat) (he : Obs.fgEnter k i a ∈ s.log) : a = k + 1 := by
  obtain ⟨l₁, l₂, e⟩ := List.append_of_mem he
  have ht := tracker_reflects_line h
  rw [e, Proofs.C03.trackerTiming_append] at ht
  simp only [trackerTiming, Bool.and_eq_true, beq_iff_eq] at ht
  exact ht.2.1

end Props.C05
