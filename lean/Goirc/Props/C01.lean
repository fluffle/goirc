import Goirc.Proofs.Line
import Goirc.Proofs.ParseRender
/-!
# C01 — Well-formed IRC messages parse to exactly the components that were sent

> For every message that is well-formed per RFC 2812 section 2.3.1, optionally preceded by an
> IRCv3 message-tags section, the parsed line exposes exactly the sent components: the tags with
> all five escapes undone (and no tag map at all when no tag section was sent), the source split
> into nick, ident and host when it has the nick!user@host form and otherwise kept whole as the
> host, the verb in upper case, the middle parameters followed by the trailing parameter, and
> the raw text unchanged. A PRIVMSG or NOTICE whose text is \x01VERB text\x01 is delivered
> instead as ACTION (target, text) or as CTCP / CTCPREPLY (VERB, target, text). Text, Target and
> Public answer consistently with those components, and a handler registered for the verb
> receives an equal line when the message arrives over a connection.

`Spec.Irc.Msg` / `render` / `Msg.wf` / `expected` formalise "well-formed message", "sent" and
"exactly the sent components" without mentioning the parser.
-/
namespace Props.C01
open Go Spec.Irc

/-- all five IRCv3 escapes are undone: for every tag value, unescaping its escaped form gives it back -/
theorem unescape_escape (v : Bytes) : unescapeTag (escapeTag v) = v := Go.unescape_escape v

/-- Text, Target and Public answer consistently with the components of *any* line (in particular
every line the parser produces): Text is the last parameter or "", Public says whether the target
parameter starts with one of `#&+!`, Target is that parameter when public and the sender's nick
otherwise (for PRIVMSG/NOTICE/ACTION/CTCP/CTCPREPLY), and the first parameter for other verbs. -/
theorem accessors_consistent (l : Line) : accessorsOk l l.text l.public l.target = true :=
  Go.accessors_consistent l

/-- the copy handed to each handler is field-wise equal to the parsed line -/
theorem copy_equal (l : Line) : l.copy = l := by
  cases l with
  | mk tags nick ident host src cmd raw args =>
    simp only [Line.copy, List.map_id_fun, id_eq, Line.mk.injEq, and_true]
    cases tags <;> simp

/-- the raw text is kept unchanged on every accepted line -/
theorem raw_unchanged (ext : UnicodeExt) (s : Bytes) (l : Line) (h : parseLine ext s = some l) : l.raw = s := by
  have hrest : ∀ (l0 : Line) (t : Bytes) (l : Line), parseRest ext l0 t = some l → l.raw = l0.raw := by
    intro l0 t l h
    unfold parseRest at h
    split at h
    · simp at h
    · simp only [Option.some.injEq] at h
      subst h; rfl
  have hws : ∀ (l0 : Line) (src : Bytes), (withSource l0 src).raw = l0.raw := by
    intro l0 src; unfold withSource; split <;> rfl
  have hsrc : ∀ (l0 : Line) (t : Bytes) (l : Line), parseSource ext l0 t = some l → l.raw = l0.raw := by
    intro l0 t l h
    unfold parseSource at h
    split at h
    · simp at h
    · split at h
      · rw [hrest _ _ _ h, hws]
      · simp at h
    · exact hrest _ _ _ h
  unfold parseLine at h
  split at h
  · simp at h
  · split at h
    · exact hsrc _ _ _ h
    · simp at h
  · exact hsrc _ _ _ h

/-- the round trip: every well-formed message, put on the wire by `render`, is accepted by the
parser, and the parsed line is *exactly* the line `expected` describes — tags unescaped (and no tag
map when no tag section was sent; the association lists are equal on the nose, not merely as finite
maps), source split or kept whole as host, verb upper-cased, middles followed by the trailing, raw
text unchanged, and the CTCP / ACTION rewriting applied — for every behaviour of `ToUpper` on
non-ASCII input. -/
theorem parse_render (ext : UnicodeExt) (m : Msg) (h : m.wf = true) :
    parseLine ext (render m) = some (expected ext m) := by
  simp only [Msg.wf, Bool.and_eq_true] at h
  obtain ⟨⟨⟨⟨⟨htags, hsrc⟩, hverb⟩, _⟩, hmid⟩, hctcp⟩ := h
  refine parse_render_of ext m ?_ ?_ hverb hmid hctcp
  · intro ts e; rw [e, Bool.and_eq_true] at htags; exact htags.2
  · intro s e; simpa [e] using hsrc

/-- non-vacuity of `Msg.wf`: a tagged CTCP message, a numeric with 14 middles -/
example : (Msg.mk (some [(lit "a", some (lit "b; c")), (lit "k", none)]) (some (.user (lit "n") (lit "u") (lit "h")))
    (lit "privmsg") [(0, lit "#c")] (some (0, [1] ++ lit "ACTION waves" ++ [1]))).wf = true := by decide +kernel
example : (Msg.mk none (some (.server (lit "irc.example.net"))) (lit "005")
    (List.replicate 14 (1, lit "x:y")) (some (2, lit "are supported :by this server"))).wf = true := by decide +kernel

end Props.C01
