import Goirc.Model.Life
import Goirc.Proofs.C06
/-!
# C06 — Lifecycle events fire exactly once and agree with Connected()

> Each successful Connect dispatches REGISTER exactly once before it returns, and each
> established connection ends with exactly one DISCONNECTED - whichever of Close, server EOF, a
> read or write error or context cancellation ends it, and however many of them coincide;
> Connected() is false whenever DISCONNECTED handlers run, and true whenever REGISTER or
> CONNECTED handlers run while no disconnect has begun. A Connect that fails or is refused (no
> server configured, dial error, already connected) fires no event and leaves an existing
> connection fully working, and Close on a client that is not connected does nothing.

Quantifier: every reachable state of the Life LTS = any number of API threads calling Connect and
Close at any time, every moment EOF / read error / write error / cancellation can strike, every
coincidence of causes, with and without the ping goroutine, any number of reconnects.
Reading: "Connected() is false whenever DISCONNECTED handlers run" holds until a later Connect has
succeeded (C07 lets the DISCONNECTED handler itself reconnect): a `true` sample implies a newer generation.
"Exactly once" = at most once here (safety) + eventually once (`Props.C07`: teardown terminates).
-/
namespace Props.C06
open Go.Life Proofs.C06

def countP (p : Ev → Bool) (l : List Ev) : Nat := (l.filter p).length

/-- REGISTER is dispatched at most once per established connection, and only for connections that exist -/
theorem register_at_most_once {s : St} (h : Reach s) (g : Gen) :
    countP (fun e => match e with | .register g' _ => g' = g | _ => false) s.log ≤ 1 ∧
    (∀ f, Ev.register g f ∈ s.log → 1 ≤ g ∧ g ≤ s.cur) := by
  have hi := invS_reach h
  exact ⟨hi.regCnt g, fun f hf => hi.regLe g f hf⟩

/-- a successful Connect returns only after its REGISTER has been dispatched, and every generation returns at most once -/
theorem register_before_return {s : St} (h : Reach s) (g : Gen) (hg : Ev.connectOk g ∈ s.log) :
    (∃ f, Ev.register g f ∈ s.log) ∧ countP (fun e => e = .connectOk g) s.log = 1 := by
  have hi := invS_reach h
  refine ⟨hi.okReg g hg, ?_⟩
  have h1 : cnt (isOk g) s.log ≤ 1 := hi.okCnt g
  have h2 : 1 ≤ cnt (isOk g) s.log := cnt_pos_of_mem hg (by simp [isOk])
  show cnt (isOk g) s.log = 1
  omega

/-- every generation that exists gets its REGISTER, or the connecting thread is just about to dispatch it -/
theorem register_exactly_once {s : St} (h : Reach s) (g : Gen) (h1 : 1 ≤ g) (h2 : g ≤ s.cur) :
    (∃ f, Ev.register g f ∈ s.log) ∨ (∃ t, s.thr t = .cRegister g) :=
  (invS_reach h).regAll g h1 h2

/-- DISCONNECTED is dispatched at most once per connection, whatever ends it and however many causes coincide -/
theorem disconnected_at_most_once {s : St} (h : Reach s) (g : Gen) :
    countP (fun e => match e with | .disconnected g' _ _ => g' = g | _ => false) s.log ≤ 1 :=
  (invS_reach h).discCnt g

/-- a DISCONNECTED handler that samples Connected() = true does so only because a later Connect has already succeeded -/
theorem disconnected_flag {s : St} (h : Reach s) (g c : Gen) (f : Bool) (hd : Ev.disconnected g f c ∈ s.log) :
    g ≤ c ∧ (f = true → g < c) := by
  have := (invS_reach h).discFlag g f c hd
  exact ⟨this.2.1, this.2.2⟩

/-- REGISTER handlers see Connected() = true unless a disconnect of that connection has begun -/
theorem register_flag {s : St} (h : Reach s) (g : Gen) (hr : Ev.register g false ∈ s.log) : Ev.tested g ∈ s.log :=
  (invS_reach h).regFlag g hr

/-- a Connect that fails or is refused fires no event and touches nothing but the mutex and its own thread -/
theorem failed_connect_is_noop (s s' : St) (t : Tid) (hs : step s (.cRefuse t) = some s') :
    s'.connected = s.connected ∧ s'.cur = s.cur ∧ s'.g.wg = s.g.wg ∧ s'.g.inQ = s.g.inQ ∧ s'.g.outQ = s.g.outQ ∧
    s'.g.recv = s.g.recv ∧ s'.g.send = s.g.send ∧ s'.g.loop = s.g.loop ∧ s'.g.ping = s.g.ping ∧
    s'.g.sockClosed = s.g.sockClosed ∧ s'.g.cancelled = s.g.cancelled ∧ s'.log = s.log ++ [.connectErr] := by
  simp only [step] at hs
  split at hs <;> simp at hs
  subst hs; simp

/-- while connected, Connect can only be refused -/
theorem connect_while_connected_refused (s : St) (t : Tid) (ping : Option Nat) (hc : s.connected = true) :
    step s (.cSucceed t ping) = none := by
  simp [step, hc]

/-- Close on a client that is not connected does nothing (and a straggler of an older connection does nothing either) -/
theorem close_when_closed_is_noop (s s' : St) (t : Tid) (tg : Option Gen) (ht : s.thr t = .xLocked tg)
    (hc : s.connected = false ∨ (∃ g', tg = some g' ∧ g' ≠ s.cur)) (hs : step s (.xTest t) = some s') :
    s'.connected = s.connected ∧ s'.cur = s.cur ∧ s'.g.wg = s.g.wg ∧ s'.g.sockClosed = s.g.sockClosed ∧
    s'.g.cancelled = s.g.cancelled ∧ s'.log = s.log ++ [.closeNoop tg] := by
  simp only [step, ht] at hs
  rw [if_pos hc] at hs
  simp at hs; subst hs; simp

/-- mutual exclusion and the meaning of `connected`: the holder of `mu` is the unique thread in a locked phase;
while `connected` nobody is draining; at most one closer is ever past the test-and-clear of a generation -/
theorem lock_discipline {s : St} (h : Reach s) :
    (∀ t, s.mu = some t ↔ (s.thr t = .cLocked ∨ (∃ tg, s.thr t = .xLocked tg) ∨ (∃ g, s.thr t = .xDrain g))) ∧
    (s.connected = true → ∀ t g, s.thr t ≠ .xDrain g) ∧
    (∀ t u g g', s.thr t = .xDrain g → s.thr u = .xDrain g' → t = u) := by
  have hi := invS_reach h
  refine ⟨hi.holder, ?_, ?_⟩
  · intro hc t g ht
    have := (hi.drainCur t g ht).2
    simp [hc] at this
  · intro t u g g' ht hu
    have h1 := (hi.holder t).mpr (Or.inr (Or.inr ⟨g, ht⟩))
    have h2 := (hi.holder u).mpr (Or.inr (Or.inr ⟨g', hu⟩))
    rw [h1] at h2; exact Option.some.inj h2

end Props.C06
