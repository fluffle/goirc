import Goirc.Props.C01
/-!
# C01, continued: from the byte stream to the parsed lines (framing of `recv`, then `parse_render` per line)
-/
namespace Props.C01
open Go Spec.Irc

/-- C01, framing: whatever lines (free of CR and LF) the server sends, each followed by CRLF, `recv`'s framing hands
exactly those lines to the parser, in order -/
theorem frames_roundtrip (ls : List Bytes) (h : ∀ l ∈ ls, (13 : UInt8) ∉ l ∧ (10 : UInt8) ∉ l) :
    recvFrames (ls.flatMap fun l => l ++ [13, 10]) = ls := by
  unfold recvFrames
  induction ls with
  | nil => rfl
  | cons l ls ih =>
    have hl := h l (List.mem_cons_self ..)
    have := recvFramesAux_line [] l (ls.flatMap fun l => l ++ [13, 10]) hl.2
    simp only [List.flatMap_cons, List.append_assoc, List.cons_append, List.nil_append, List.reverse_nil] at this ⊢
    rw [this, ih (fun l' hl' => h l' (List.mem_cons_of_mem _ hl')), recvTrim, trimCRLF_line l hl.1 hl.2]

/-- C01, delivery: a stream of well-formed messages (whose rendering contains no CR / LF) is framed and parsed into
exactly the expected lines, in order -/
theorem stream_parses (ext : UnicodeExt) (ms : List Msg) (hwf : ∀ m ∈ ms, m.wf = true)
    (hclean : ∀ m ∈ ms, (13 : UInt8) ∉ render m ∧ (10 : UInt8) ∉ render m) :
    (recvFrames (ms.flatMap fun m => render m ++ [13, 10])).map (parseLine ext) = ms.map fun m => some (expected ext m) := by
  have hfm : (ms.flatMap fun m => render m ++ [13, 10]) = (ms.map render).flatMap fun l => l ++ [13, 10] := by
    rw [List.flatMap_map]
  rw [hfm, frames_roundtrip (ms.map render) (by
    intro l hl
    obtain ⟨m, hm, rfl⟩ := List.mem_map.1 hl
    exact hclean m hm)]
  rw [List.map_map]
  apply List.map_congr_left
  intro m hm
  exact Props.C01.parse_render ext m (hwf m hm)

end Props.C01
