import Goirc.Props.C10
/-!
# C10, continued: the executable window predicate (`window_ok_of_valid`), Flood toggled on and off between lines (`ValidT`,
`toggled_protected_valid`), and "exactly when": no hold after 10 s of silence (`quiet_after_idle`)
-/
namespace Props.C10
open Go Go.Flood

/-- C10: the executable window predicate that the driver evaluates on observed (length, write time) pairs holds of
every valid run of the model from a fresh client - so a failure of `Spec.Flood.windowOk` on an implementation
transcript contradicts `window_bound` -/
theorem window_ok_of_valid (t0 : Int) (es : List Ev) (hv : Valid (fresh t0) t0 es) :
    Spec.Flood.windowOk (es.map fun e => (e.chars, e.w)) = true :=
  windowOk_of_inv _ _ (inv_fresh t0) es hv

/-- A run in which the application flips `cfg.Flood` between lines (`true` = written with Flood set): such a line is
neither charged nor delayed - `rateLimit` is not called, the state is untouched - and is written no earlier than the line
before it; a protected line is as in `Valid`. -/
def ValidT : St → Int → List (Bool × Ev) → Prop
  | _, _, [] => True
  | s, pw, (true, e) :: es => pw ≤ e.w ∧ ValidT s e.w es
  | s, pw, (false, e) :: es => pw ≤ e.t ∧ e.t ≤ e.l ∧ e.l + delay s e ≤ e.w ∧ ValidT (next s e) e.w es

/-- the lines written with protection on, in order -/
def protectedOf (es : List (Bool × Ev)) : List Ev := (es.filter fun p => !p.1).map (·.2)

theorem valid_mono_pw (s : St) (pw pw' : Int) (es : List Ev) (h : pw' ≤ pw) (hv : Valid s pw es) : Valid s pw' es := by
  cases es with
  | nil => trivial
  | cons e es => exact ⟨Int.le_trans h hv.1, hv.2⟩

/-- C10, the toggling clause: whatever the application does with the switch, the protected lines alone form a valid run
of the rate limiter - the unprotected lines in between change nothing but the clock. So every theorem about valid runs
(the penalty invariant, `window_bound`, `window_ok_of_valid`) holds of the protected subsequence of every toggled run. -/
theorem toggled_protected_valid (s : St) (pw : Int) (es : List (Bool × Ev)) (hv : ValidT s pw es) :
    Valid s pw (protectedOf es) := by
  induction es generalizing s pw with
  | nil => trivial
  | cons p es ih =>
    obtain ⟨f, e⟩ := p
    cases f with
    | true =>
      have h := ih s e.w hv.2
      simpa [protectedOf] using valid_mono_pw s e.w pw _ hv.1 h
    | false =>
      obtain ⟨h1, h2, h3, h4⟩ := hv
      have h := ih (next s e) e.w h4
      simpa [protectedOf, Valid] using And.intro h1 (And.intro h2 (And.intro h3 h))

/-- the window predicate the driver evaluates holds of the protected lines of every toggled run of a fresh client -/
theorem window_ok_toggled (t0 : Int) (es : List (Bool × Ev)) (hv : ValidT (fresh t0) t0 es) :
    Spec.Flood.windowOk ((protectedOf es).map fun e => (e.chars, e.w)) = true :=
  window_ok_of_valid t0 _ (toggled_protected_valid _ _ _ hv)

/-- and a line written with Flood set is never held back -/
theorem toggled_unprotected_not_delayed (s : St) (e : Ev) : (writeStep true s e).2 = 0 := rfl

/-- **no over-throttling** ("held back EXACTLY when the penalty exceeds 10 s", "decays in real time"): in any state
reachable from a fresh client, once the client has been silent for 10 s since its last write the penalty has decayed to
nothing - whatever it was, the invariant bounds it by 10 s plus the time already served - and the next lines, as long as
their charges sum to at most 10 s, all go out without a hold -/
theorem quiet_after_idle (s : St) (pw : Int) (hI : Inv s pw) (es : List Ev) (hv : Valid s pw es)
    (hidle : ∀ e ∈ es.head?, pw + 10 * second ≤ e.t) (hsum : totalCharge es ≤ 10 * second) : NoHold s es :=
  -- after the idle gap nothing is left of the penalty: the budget is 0
  noHold_of_budget s pw es hI.2.1 hv 0 (Int.le_refl 0)
    (fun e he => by have := hidle e he; have := hI.2.2; omega) (by omega)

/-- non-vacuity: four 20-byte lines (charge 2.17 s each) after 16 s of silence meet the premises -/
example : totalCharge [⟨20, 0, 0, 0⟩, ⟨20, 0, 0, 0⟩, ⟨20, 0, 0, 0⟩, ⟨20, 0, 0, 0⟩] ≤ 10 * second := by decide +kernel

end Props.C10
