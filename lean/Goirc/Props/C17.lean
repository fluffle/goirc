import Goirc.Spec.NickScript
import Goirc.Proofs.C17
/-!
# C17 — The client always knows its own current nick

> After any sequence of nick collisions during registration (433 before the welcome), the welcome
> line, and confirmed, refused and server-forced nick changes afterwards, Me() reports the nick the
> server currently uses for the client, with and without state tracking; Me() and Config().Me are
> never nil. A collision is always answered by requesting the nick the configured generator
> derives from the refused one, and the default generator always yields a different nick of the
> same length that differs only in its last character.
-/
namespace Props.C17
open Go Go.Client Spec.NickScript

/-- the default generator: for every non-empty nick, a different nick of the same length that
differs only in its last byte -/
theorem default_gen (old : Bytes) (h : old ≠ []) :
    (defaultNewNick old).length = old.length ∧ defaultNewNick old ≠ old ∧
    (defaultNewNick old).dropLast = old.dropLast := by
  have hold := (List.dropLast_concat_getLast h).symm
  rw [defaultNewNick_eq old _ (List.getLast?_eq_some_getLast h)]
  generalize old.getLast h = c at hold ⊢
  refine ⟨?_, ?_, ?_⟩
  · conv => rhs; rw [hold]
    simp
  · intro e
    rw [hold] at e
    simp at e
    exact nextByte_ne c e
  · simp

/-- run a script: the Spec server produces each line, the client model handles it -/
def run (gen : Bytes → Bytes) : Srv → Client → List Ev → Srv × Client
  | s, c, [] => (s, c)
  | s, c, e :: es =>
    match parseLine c.ext (lineOf s e) with
    | some l => run gen (step gen s e) (dispatchInternal c l).c es
    | none => run gen (step gen s e) c es

def Conforming (gen : Bytes → Bytes) : Srv → List Ev → Prop
  | _, [] => True
  | s, e :: es => conforms s e = true ∧ Conforming gen (step gen s e) es

/-- names in the script are sane nick names: non-empty, no white space, no '!' '@' ':' , ASCII -/
def nickName (n : Bytes) : Prop := n ≠ [] ∧ ∀ b ∈ n, 33 < b ∧ b < 127 ∧ b ≠ 58 ∧ b ≠ 64

/-- the client starts knowing the nick it asks for; tracking on or off -/
def startClient (nick : Bytes) (gen : Bytes → Bytes) (ext : UnicodeExt) (track : Bool) : Client :=
  let c : Client := { cfg := { meNick := nick, meIdent := lit "id", meName := lit "n" }, newNick := gen, ext := ext }
  if track then enableTracking c else c

/-- **C17**: after any conforming script, Me() reports the nick the server uses (pending nick before
the welcome), and Config().Me is not nil — with and without state tracking, for any generator that
produces sane names -/
theorem me_tracks_server (gen : Bytes → Bytes) (ext : UnicodeExt) (track : Bool) (nick : Bytes) (evs : List Ev)
    (hn : nickName nick) (hg : ∀ n, nickName n → nickName (gen n))
    (hnames : ∀ e ∈ evs, ∀ n ∈ evNames e, nickName n)
    (hc : Conforming gen { nick := nick } evs) :
    let r := run gen { nick := nick } (startClient nick gen ext track) evs
    (refreshMe r.2).cfg.meNick = r.1.nick ∧ r.2.cfg.meNil = false := by
  have key : ∀ (evs : List Ev) (s : Srv) (c : Client), CInv gen ext s.nick c → SaneName s.nick →
      (∀ e ∈ evs, ∀ n ∈ evNames e, SaneName n) → Conforming gen s evs →
      CInv gen ext (run gen s c evs).1.nick (run gen s c evs).2 := by
    intro evs
    induction evs with
    | nil => intro s c h _ _ _; exact h
    | cons e es ih =>
      intro s c h hs hnm hcf
      obtain ⟨l, hl, hinv, hnk⟩ := step_inv gen ext s c e h hs (hnm e (by simp)) hg hcf.1
      have hext : c.ext = ext := h.2.2.1
      simp only [run, hext, hl]
      exact ih _ _ hinv hnk (fun e' he' => hnm e' (by simp [he'])) hcf.2
  have := key evs { nick := nick } (startClient nick gen ext track)
    (start_inv nick gen ext track (lit "id") (lit "n")) hn hnames hc
  exact ⟨this.me, this.1⟩

/-- a collision is always answered by requesting the generator's nick for the refused one -/
theorem collision_reply (c : Client) (l : Line) (refused : Bytes) (h : l.args[1]? = some refused)
    (hme : (refreshMe c).cfg.meNil = false) (hclean : CR ∉ c.newNick refused ∧ LF ∉ c.newNick refused) :
    (h_433 c l).out = [lit "NICK " ++ c.newNick refused] := by
  have he : emit (refreshMe c) (.nick (c.newNick refused)) = [lit "NICK " ++ c.newNick refused] :=
    exec_nick _ _ _ hclean
  simp only [h_433, hme, arg, h, refreshMe_newNick, he]
  simp
  split
  · split
    · split <;> rfl
    · rfl
  · rfl

end Props.C17
