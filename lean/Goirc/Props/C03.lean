import Goirc.Spec.Dispatch
import Goirc.Proofs.C03
/-!
# C03 — Foreground handlers see server events one at a time, in wire order
# C05 — State tracking is applied before user handlers observe a line
# C16 — A misbehaving handler cannot stop event delivery

> C03: Lines received from the server are delivered to foreground handlers in exactly the order they
> arrived, and all foreground handlers for one line have finished before any handler for the next
> line starts, however the byte stream is segmented into reads and however long handlers take.
> CONNECTED is delivered after the welcome (001) line has been applied and before any later line;
> DISCONNECTED is delivered only after every foreground handler invocation for that connection's
> lines has finished.
>
> C05: With state tracking enabled, whenever a user handler (foreground or background) runs for a
> server line, the tracker already reflects that line; and while a foreground handler runs, the
> tracker does not yet reflect any later line.
>
> C16: If a handler panics, the panic is handed to the configured recovery function (by default it
> is logged) and the other handlers for that event and all later events are still delivered; if a
> background handler never returns, foreground delivery of later events is not delayed.

Quantifier: every reachable state of the Dispatch LTS = every line sequence, every size of every
handler snapshot, every interleaving of recv, runLoop, handler goroutines and a Close that may
begin at any moment, handlers that take arbitrarily long, panic (recovered = `hLeave`/`intLeave`)
or, for background handlers, never return.
-/
namespace Props.C03
open Go.Dispatch Spec.Dispatch

/-- **C03 + C05**: the observable history of every reachable state satisfies the delivery Spec: foreground
events in wire order and one line at a time, CONNECTED nested after the welcome is applied and before the
welcome line's own foreground handlers and any later line, nothing after DISCONNECTED, and every foreground
handler of line k sees exactly lines 0..k applied (background handlers: at least those) -/
theorem delivery_ok {s : St} (h : Reach s) : Spec.Dispatch.ok s.log = true :=
  Proofs.C03.delivery_ok h

/-- **exactly once** (also C04, C16 "siblings and later events are still delivered"): between the ghost events
`fgStart k n` and `fgDone k`, each of the n snapshot handlers entered exactly once and left exactly once,
whether it returned or panicked; and a handler event for (k, h) never occurs outside such a bracket -/
theorem fg_exactly_once {s : St} (h : Reach s) (k n : Nat)
    (hd : Obs.fgStart k n ∈ s.log) (hdone : Obs.fgDone k ∈ s.log) (i : Nat) (hi : i < n) :
    (s.log.filter fun o => match o with | .fgEnter k' h' _ => k' = k ∧ h' = i | _ => false).length = 1 ∧
    (s.log.filter fun o => match o with | .fgExit k' h' _ => k' = k ∧ h' = i | _ => false).length = 1 := by
  have inv := Proofs.C03.inv2_reach h
  apply inv.complete k ?_ n hd i hi
  intro ⟨hp, hst⟩
  have := inv.cur k hp
  simp only [hst, if_true] at this
  obtain ⟨_, _, _, h3, _⟩ := this
  exact h3 hdone

theorem fg_only_snapshot {s : St} (h : Reach s) (k i a : Nat) (he : Obs.fgEnter k i a ∈ s.log) :
    ∃ n, Obs.fgStart k n ∈ s.log ∧ i < n :=
  (Proofs.C03.inv2_reach h).snap k i a he

/-- the loop is never stuck because of handlers that *returned*: once every outstanding handler of the
current snapshot has left, the join is enabled (no lost wake-up in the model's fork/join) -/
theorem join_enabled (s : St) (k : Nat) (hp : s.phase = .fg k) (hs : s.hs = []) (hst : s.fgStarted = true) :
    (step s .fgJoin).isSome := by
  simp [step, hp, hs, hst]

/-- erase the background records -/
def noBg (s : St) : St := { s with bg := [] }

/-- **C16, background non-interference**: no step of recv, runLoop, the internal / foreground / CONNECTED
handlers or Close looks at the background records — whatever background handlers exist, are running or are
stuck for ever, every other label is enabled in exactly the same states and has the same effect -/
theorem bg_noninterference (s : St) (bg' : List (Nat × Nat × HState)) (l : Label)
    (hl : match l with | .bgEnter _ _ => False | .bgLeave _ _ => False | .spawnBg _ => False | _ => True) :
    (step { s with bg := bg' } l).map noBg = (step s l).map noBg := by
  rw [Proofs.C03.step_set_bg s bg' l hl, Option.map_map]; rfl

/-- forget the handlers of other goroutines' dispatches -/
def noOther (s : St) : St := { s with other := 0 }

/-- **dispatches by other goroutines do not interfere**: REGISTER is dispatched by the caller of `Connect` while the event
loop is already at work, on the very same handler sets. However many handlers of such dispatches are running, every step
of recv, runLoop, its handlers and Close is enabled in exactly the same states and has the same effect: each dispatch
joins the handlers it started itself and no others - so "all handlers of one line have finished before those of the next
begin" and "the tracker reflects exactly the lines up to this one" (`delivery_ok`, `fg_sees_exactly_its_line`) hold
whatever else is being dispatched meanwhile -/
theorem other_dispatches_do_not_interfere (s : St) (n : Nat) (l : Label)
    (hl : match l with | .otherSpawn _ => False | .otherLeave => False | _ => True) :
    (step { s with other := n } l).map noOther = (step s l).map noOther := by
  rw [Proofs.C03.step_set_other s n l hl, Option.map_map]; rfl

end Props.C03
