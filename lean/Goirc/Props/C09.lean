import Goirc.Spec.Send
import Goirc.Proofs.C09
/-!
# C09 — Outgoing lines reach the server in order, once each

> While the connection stays up, every line handed to the client is written to the server exactly
> once, byte for byte, and lines issued by the same goroutine appear on the wire in the order they
> were issued, for any number of concurrent senders (handlers and user goroutines).

Quantifier: every reachable state of the Send LTS = every number of senders, every interleaving
of `Raw` completions with the send goroutine's dequeues and writes, every queue capacity ≥ 0.
-/
namespace Props.C09
open Go.Send Spec.Send Proofs.C09

/-- the pipeline invariant: for every sender, what is on the wire, in flight and queued is exactly
the lines it has issued, once each, in issue order -/
theorem pipeline_invariant {cap st} (h : Reach cap st) (s : Sender) :
    seqsOf s (pipeline st) = List.range (st.issued s) := by
  induction h with
  | init => rfl
  | step _ hs ih =>
    rcases pipeline_step hs with ⟨t, hp, hi⟩ | ⟨hp, hi⟩
    · rw [hp, hi, seqsOf_append, ih]
      by_cases e : s = t
      · subst e; simp [seqsOf, List.range_succ]
      · have e' : ¬ t = s := fun h => e h.symm
        simp [seqsOf, e, e']
    · rw [hp, hi, ih]

/-- on the wire each sender's lines appear at most once, in order, as a prefix of what it issued -/
theorem wire_per_sender_prefix {cap st} (h : Reach cap st) (s : Sender) :
    seqsOf s st.wire <+: List.range (st.issued s) := by
  rw [← pipeline_invariant h s, pipeline, List.append_assoc, seqsOf_append]
  exact List.prefix_append _ _

/-- the executable Spec holds of every reachable wire, for any list of senders that covers the wire -/
theorem wire_ok {cap st} (h : Reach cap st) (senders : List Sender) (hc : ∀ i ∈ st.wire, i.sender ∈ senders) :
    okPrefix senders st.wire = true := by
  simp only [okPrefix, Bool.and_eq_true, List.all_eq_true]
  refine ⟨fun s _ => isRange_of_prefix_range (wire_per_sender_prefix h s), fun i hi => ?_⟩
  simpa using hc i hi

/-- nothing is lost while the connection is up: a line that has been issued and is not yet on the
wire is still in flight or queued (so it will be written: `deq`/`write` stay enabled, see `progress`) -/
theorem nothing_lost {cap st} (h : Reach cap st) (s : Sender) (k : Nat) (hk : k < st.issued s) :
    (⟨s, k⟩ : Item) ∈ pipeline st := by
  apply mem_of_seq_mem
  rw [pipeline_invariant h s]
  exact List.mem_range.mpr hk

/-- while up, the send goroutine is never stuck with work pending: if something is queued or in
flight, `deq` or `write` is enabled -/
theorem progress {cap st} (h : Reach cap st) (hup : st.up = true) (hw : st.inflight.isSome ∨ st.q ≠ []) :
    (step st .write).isSome ∨ (step st .deq).isSome := by
  have _ := h -- holds in every state, reachable or not
  cases hi : st.inflight with
  | some x => left; simp [step, hup, hi]
  | none =>
    right
    cases hq : st.q with
    | nil => simp [hi, hq] at hw
    | cons y ys => simp [step, hup, hi, hq]

/-- and each `write` shrinks the unwritten part of the pipeline (a `deq` moves a line from the queue to in flight and
leaves both lengths as they are): pending work is bounded by
`inflight + queue` length, so under weak fairness of the send goroutine every issued line is written -/
theorem write_decreases {cap st st'} (h : Reach cap st) (hs : step st .write = some st') :
    (pipeline st').length = (pipeline st).length ∧ st'.wire.length = st.wire.length + 1 := by
  have _ := h -- holds in every state, reachable or not
  simp only [step] at hs
  split at hs
  · split at hs <;> simp at hs
    subst hs
    rename_i x hi
    simp [pipeline, hi]
  · simp at hs

end Props.C09
