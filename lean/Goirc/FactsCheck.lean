import Goirc.Facts
import Goirc.Model.Split
import Goirc.Model.Commands
import Goirc.Model.Line
import Goirc.Model.Client
/-!
# Tie A obligations: what was extracted from /repo now vs what the model assumes

Each theorem is tagged `[Cxx,…]` with the properties whose models rely on it; the check script
reads those tags.  `Facts.lean` is regenerated from the working tree on every run, so a source
edit that moves a fact breaks the obligation *by name*.  `shape_*` facts are fingerprints of a
function's normalised body (comments and logging calls removed); the normalised text is printed
next to each fingerprint in `Facts.lean` and the pinned text is in `Facts.golden`.
-/
namespace FactsCheck
open Go

/-- [C11] SplitLen default -/
theorem defaultSplit_is_450 : Facts.defaultSplit = some 450 := rfl

/-- [C11] the eight sentence separators `indexFragment` looks for are the model's `seps`, each followed by a space -/
theorem fragSeps_eq_model : Facts.fragSeps = some (Go.seps.map fun c => [c, 32]) := rfl

/-- [C11] `indexFragment` is the function `Go.indexFragment` transcribes -/
theorem shape_indexFragment : Facts.shape_indexFragment = some "gen" := rfl

/-- [C11] `splitMessage` is the function `Go.splitMessage` transcribes -/
theorem shape_splitMessage : Facts.shape_splitMessage = some "gen" := rfl

/-- [C08,C09] the only statement that sends on `conn.out` is in `Raw` -/
theorem only_Raw_sends : Facts.sendersOnOut = some ["Conn.Raw"] := rfl

/-- [C08,C09] `write` (WriteString + Flush on the socket's buffered writer) is called by the send goroutine only:
no handler and no API method writes to the socket behind the queue's back -/
theorem only_send_writes : Facts.callersOfWrite = some ["Conn.send"] := rfl

/-- [C09] `conn.out` is received from by `send` (the consumer) and by the drain loop of `closeFor` only -/
theorem only_send_receives : Facts.receiversOnOut = some ["Conn.closeFor", "Conn.send"] := rfl

/-- [C08,C09] the functions that touch `conn.sock` / `conn.io` at all: connection set-up and teardown, the reader, `write` -/
theorem socket_users : Facts.socketUsers = some ["Conn.closeFor", "Conn.initialise", "Conn.internalConnect",
    "Conn.postConnect", "Conn.recvFor", "Conn.write"] := rfl

/-- [C06,C07] the `*Conn` methods that take `conn.mu` -/
theorem mu_lockers : Facts.muLockers = some ["Conn.DisableStateTracking", "Conn.EnableStateTracking",
    "Conn.closeFor", "Conn.internalConnect"] := rfl

/-- [C06,C07,C16] `closeFor` waits, holding `conn.mu`, for the goroutines ping / recvFor / runLoop / send: by direct
method calls none of them reaches a method that takes `conn.mu`, except `closeFor` itself (which each calls only
after its `wg.Done()`: see the shape facts) - so the wait cannot be a lock cycle through the library's own code -/
theorem conn_goroutines_take_no_mu : Facts.muReachableFromConnGoroutines =
    some ["ping->", "recvFor->closeFor", "runLoop->closeFor", "send->closeFor"] := rfl

/-- [C08] the exported `*Conn` methods from which `Raw` is reachable are exactly the modelled command
methods (`Go.Cmd`, with Privmsgln/Privmsgf) plus the Connect family (through the ping goroutine) -/
theorem api_methods : Facts.exportedReachingRaw = some ["Action", "Authenticate", "Away", "Cap", "Connect",
    "ConnectContext", "ConnectTo", "ConnectToContext", "Ctcp", "CtcpReply", "Invite", "Join", "Kick", "Mode", "Nick",
    "Notice", "Oper", "Part", "Pass", "Ping", "Pong", "Privmsg", "Privmsgf", "Privmsgln", "Quit", "Raw", "Topic",
    "User", "VHost", "Version", "Who", "Whois"] := rfl

/-- [C08] verb constants equal the model's -/
theorem verbs_eq_model :
    [Facts.const_PASS, Facts.const_NICK, Facts.const_USER, Facts.const_JOIN, Facts.const_PART, Facts.const_KICK,
     Facts.const_QUIT, Facts.const_WHOIS, Facts.const_WHO, Facts.const_PRIVMSG, Facts.const_NOTICE, Facts.const_VERSION,
     Facts.const_ACTION, Facts.const_TOPIC, Facts.const_MODE, Facts.const_AWAY, Facts.const_INVITE, Facts.const_OPER,
     Facts.const_VHOST, Facts.const_PING, Facts.const_PONG, Facts.const_CAP, Facts.const_AUTHENTICATE] =
    [V.PASS, V.NICK, V.USER, V.JOIN, V.PART, V.KICK, V.QUIT, V.WHOIS, V.WHO, V.PRIVMSG, V.NOTICE, V.VERSION, V.ACTION,
     V.TOPIC, V.MODE, V.AWAY, V.INVITE, V.OPER, V.VHOST, V.PING, V.PONG, V.CAP, V.AUTHENTICATE].map some := by
  decide +kernel   -- `rfl` has the elaborator evaluate the 23 `lit` literals before the kernel does

/-- [C08] `cutNewLines` is the body the model transcribes -/
theorem shape_cutNewLines : Facts.shape_cutNewLines = some "gen" := rfl

/-- [C08] `splitArgs` is the body the model transcribes -/
theorem shape_splitArgs : Facts.shape_splitArgs = some "gen" := rfl

/-- [C08] `Conn.Raw` is the body the model transcribes -/
theorem shape_Conn_Raw : Facts.shape_Conn_Raw = some "gen" := rfl

/-- [C08,C09,C10,C20] `Conn.write` is the body the model transcribes: rate limit (sleep for exactly what `rateLimit` returns,
whatever the line says), then the line and CRLF in one buffered write, flushed; PASS lines masked in the debug record -/
theorem shape_Conn_write : Facts.shape_Conn_write = some "40794eb131cbea91" := rfl

/-- [C08] `Conn.Pass` is the body the model transcribes -/
theorem shape_Conn_Pass : Facts.shape_Conn_Pass = some "gen" := rfl

/-- [C08] `Conn.Nick` is the body the model transcribes -/
theorem shape_Conn_Nick : Facts.shape_Conn_Nick = some "gen" := rfl

/-- [C08] `Conn.User` is the body the model transcribes -/
theorem shape_Conn_User : Facts.shape_Conn_User = some "gen" := rfl

/-- [C08] `Conn.Join` is the body the model transcribes -/
theorem shape_Conn_Join : Facts.shape_Conn_Join = some "gen" := rfl

/-- [C08] `Conn.Part` is the body the model transcribes -/
theorem shape_Conn_Part : Facts.shape_Conn_Part = some "gen" := rfl

/-- [C08] `Conn.Kick` is the body the model transcribes -/
theorem shape_Conn_Kick : Facts.shape_Conn_Kick = some "gen" := rfl

/-- [C08] `Conn.Quit` is the body the model transcribes -/
theorem shape_Conn_Quit : Facts.shape_Conn_Quit = some "gen" := rfl

/-- [C08] `Conn.Whois` is the body the model transcribes -/
theorem shape_Conn_Whois : Facts.shape_Conn_Whois = some "gen" := rfl

/-- [C08] `Conn.Who` is the body the model transcribes -/
theorem shape_Conn_Who : Facts.shape_Conn_Who = some "gen" := rfl

/-- [C08,C11] `Conn.Privmsg` is the body the model transcribes -/
theorem shape_Conn_Privmsg : Facts.shape_Conn_Privmsg = some "gen" := rfl

/-- [C08,C11] `Conn.Privmsgln` is the body the model transcribes -/
theorem shape_Conn_Privmsgln : Facts.shape_Conn_Privmsgln = some "961d863c5ba3c2ab" := rfl

/-- [C08,C11] `Conn.Privmsgf` is the body the model transcribes -/
theorem shape_Conn_Privmsgf : Facts.shape_Conn_Privmsgf = some "4b0c782d335e5f60" := rfl

/-- [C08,C11] `Conn.Notice` is the body the model transcribes -/
theorem shape_Conn_Notice : Facts.shape_Conn_Notice = some "gen" := rfl

/-- [C08,C11] `Conn.Ctcp` is the body the model transcribes -/
theorem shape_Conn_Ctcp : Facts.shape_Conn_Ctcp = some "gen" := rfl

/-- [C08,C11] `Conn.CtcpReply` is the body the model transcribes -/
theorem shape_Conn_CtcpReply : Facts.shape_Conn_CtcpReply = some "gen" := rfl

/-- [C08] `Conn.Version` is the body the model transcribes -/
theorem shape_Conn_Version : Facts.shape_Conn_Version = some "gen" := rfl

/-- [C08,C11] `Conn.Action` is the body the model transcribes -/
theorem shape_Conn_Action : Facts.shape_Conn_Action = some "gen" := rfl

/-- [C08] `Conn.Topic` is the body the model transcribes -/
theorem shape_Conn_Topic : Facts.shape_Conn_Topic = some "gen" := rfl

/-- [C08] `Conn.Mode` is the body the model transcribes -/
theorem shape_Conn_Mode : Facts.shape_Conn_Mode = some "gen" := rfl

/-- [C08] `Conn.Away` is the body the model transcribes -/
theorem shape_Conn_Away : Facts.shape_Conn_Away = some "gen" := rfl

/-- [C08] `Conn.Invite` is the body the model transcribes -/
theorem shape_Conn_Invite : Facts.shape_Conn_Invite = some "gen" := rfl

/-- [C08] `Conn.Oper` is the body the model transcribes -/
theorem shape_Conn_Oper : Facts.shape_Conn_Oper = some "gen" := rfl

/-- [C08] `Conn.VHost` is the body the model transcribes -/
theorem shape_Conn_VHost : Facts.shape_Conn_VHost = some "gen" := rfl

/-- [C08] `Conn.Ping` is the body the model transcribes -/
theorem shape_Conn_Ping : Facts.shape_Conn_Ping = some "gen" := rfl

/-- [C08] `Conn.Pong` is the body the model transcribes -/
theorem shape_Conn_Pong : Facts.shape_Conn_Pong = some "gen" := rfl

/-- [C08] `Conn.Cap` is the body the model transcribes -/
theorem shape_Conn_Cap : Facts.shape_Conn_Cap = some "gen" := rfl

/-- [C08] `Conn.Authenticate` is the body the model transcribes -/
theorem shape_Conn_Authenticate : Facts.shape_Conn_Authenticate = some "gen" := rfl

/-- [C10] `Conn.rateLimit` is the body the model transcribes -/
theorem shape_Conn_rateLimit : Facts.shape_Conn_rateLimit = some "304b797776fb4789" := rfl


/-- [C01] the pairs handed to `strings.NewReplacer` for tag values are the five IRCv3 escapes
`unesc1` knows: `\\:`→`;` `\\s`→space `\\\\`→`\\` `\\r`→CR `\\n`→LF -/
theorem tagsReplacer_pairs : Facts.tagsReplacerArgs =
    some [[92, 58], [59], [92, 115], [32], [92, 92], [92], [92, 114], [13], [92, 110], [10]] := rfl

/-- [C01] each pair of the replacer is undone exactly as the model's `unesc1` says -/
theorem tagsReplacer_matches_model :
    [(58, 59), (115, 32), (92, 92), (114, 13), (110, 10)].all (fun p : UInt8 × UInt8 => unesc1 p.1 == some p.2) = true := rfl

/-- [C01,C02] `ParseLine` is the body the model transcribes -/
theorem shape_ParseLine : Facts.shape_ParseLine = some "gen" := rfl

/-- [C01,C02] `parseUserHost` is the body the model transcribes -/
theorem shape_parseUserHost : Facts.shape_parseUserHost = some "gen" := rfl

/-- [C01,C02] `Line.Text` is the body the model transcribes -/
theorem shape_Line_Text : Facts.shape_Line_Text = some "gen" := rfl

/-- [C01,C02] `Line.Target` is the body the model transcribes -/
theorem shape_Line_Target : Facts.shape_Line_Target = some "gen" := rfl

/-- [C01,C02] `Line.Public` is the body the model transcribes -/
theorem shape_Line_Public : Facts.shape_Line_Public = some "gen" := rfl

/-- [C01,C15] `Line.Copy` is the body the model transcribes -/
theorem shape_Line_Copy : Facts.shape_Line_Copy = some "4bc3e325131cb205" := rfl

/-- [C02] `Line.argslen` is the body the model transcribes -/
theorem shape_Line_argslen : Facts.shape_Line_argslen = some "gen" := rfl


/-- [C02,C05,C13,C17,C18,C19] the internal handler table is the one `Go.Client.intHandler` transcribes -/
theorem table_intHandlers : Facts.table_intHandlers = some ["001=(*Conn).h_001", "410=(*Conn).h_410", "433=(*Conn).h_433",
    "903=(*Conn).h_903", "904=(*Conn).h_904", "908=(*Conn).h_908", "AUTHENTICATE=(*Conn).h_AUTHENTICATE", "CAP=(*Conn).h_CAP",
    "CTCP=(*Conn).h_CTCP", "NICK=(*Conn).h_NICK", "PING=(*Conn).h_PING", "REGISTER=(*Conn).h_REGISTER"] := rfl

/-- [C05,C13,C17] the state-handler table is the one `Go.Client.stHandler` transcribes; all of them are added to the
internal set by `addSTHandlers` (shape pinned below) -/
theorem table_stHandlers : Facts.table_stHandlers = some ["311=(*Conn).h_311", "324=(*Conn).h_324", "332=(*Conn).h_332",
    "352=(*Conn).h_352", "353=(*Conn).h_353", "671=(*Conn).h_671", "JOIN=(*Conn).h_JOIN", "KICK=(*Conn).h_KICK", "MODE=(*Conn).h_MODE",
    "NICK=(*Conn).h_STNICK", "PART=(*Conn).h_PART", "QUIT=(*Conn).h_QUIT", "TOPIC=(*Conn).h_TOPIC"] := rfl

/-- [C17] `Conn.h.001` is the body the model transcribes -/
theorem shape_Conn_h_001 : Facts.shape_Conn_h_001 = some "9920fd2dd12b0c96" := rfl

/-- [C17] `Conn.h.433` is the body the model transcribes -/
theorem shape_Conn_h_433 : Facts.shape_Conn_h_433 = some "75c67a2eea59a0f5" := rfl

/-- [C17] `Conn.h.NICK` is the body the model transcribes -/
theorem shape_Conn_h_NICK : Facts.shape_Conn_h_NICK = some "42afd7d95ea7c46a" := rfl

/-- [C17] `Conn.h.STNICK` is the body the model transcribes -/
theorem shape_Conn_h_STNICK : Facts.shape_Conn_h_STNICK = some "f2f480938a7979fe" := rfl

/-- [C17] `Conn.Me` is the body the model transcribes -/
theorem shape_Conn_Me : Facts.shape_Conn_Me = some "5755dec09382bb87" := rfl

/-- [C17] `DefaultNewNick` is the body the model transcribes -/
theorem shape_DefaultNewNick : Facts.shape_DefaultNewNick = some "gen" := rfl

/-- [C17] `Conn.EnableStateTracking` is the body the model transcribes -/
theorem shape_Conn_EnableStateTracking : Facts.shape_Conn_EnableStateTracking = some "a0a16c9811ebe237" := rfl


/-- [C19] capability sub-command constants and the sasl capability name -/
theorem cap_consts : [Facts.const_CAP_LS, Facts.const_CAP_REQ, Facts.const_CAP_ACK, Facts.const_CAP_NAK, Facts.const_CAP_END, Facts.const_saslCap] =
    [Go.Client.CAP_LS, Go.Client.CAP_REQ, Go.Client.CAP_ACK, Go.Client.CAP_NAK, Go.Client.CAP_END, Go.Client.saslCap].map some := rfl

/-- [C19] `Conn.getRequestCapabilities` is the body the model transcribes -/
theorem shape_Conn_getRequestCapabilities : Facts.shape_Conn_getRequestCapabilities = some "42248ffdc22caf4f" := rfl

/-- [C19] `Conn.negotiateCapabilities` is the body the model transcribes -/
theorem shape_Conn_negotiateCapabilities : Facts.shape_Conn_negotiateCapabilities = some "09eb82be607f4965" := rfl

/-- [C19] `Conn.handleCapAck` is the body the model transcribes -/
theorem shape_Conn_handleCapAck : Facts.shape_Conn_handleCapAck = some "e53e59b0c12a4ad5" := rfl

/-- [C19] `Conn.handleCapNak` is the body the model transcribes -/
theorem shape_Conn_handleCapNak : Facts.shape_Conn_handleCapNak = some "gen" := rfl

/-- [C19] `Conn.h.CAP` is the body the model transcribes -/
theorem shape_Conn_h_CAP : Facts.shape_Conn_h_CAP = some "bd8988bc5e924a43" := rfl

/-- [C19] `Conn.h.410` is the body the model transcribes -/
theorem shape_Conn_h_410 : Facts.shape_Conn_h_410 = some "gen" := rfl

/-- [C19] `Conn.h.AUTHENTICATE` is the body the model transcribes -/
theorem shape_Conn_h_AUTHENTICATE : Facts.shape_Conn_h_AUTHENTICATE = some "6fcf2b777941f2ba" := rfl

/-- [C19] `Conn.h.903` is the body the model transcribes -/
theorem shape_Conn_h_903 : Facts.shape_Conn_h_903 = some "gen" := rfl

/-- [C19] `Conn.h.904` is the body the model transcribes -/
theorem shape_Conn_h_904 : Facts.shape_Conn_h_904 = some "gen" := rfl

/-- [C19] `Conn.h.908` is the body the model transcribes -/
theorem shape_Conn_h_908 : Facts.shape_Conn_h_908 = some "gen" := rfl

/-- [C19] `capSet.Clear` (run by `initialise` at every connect) empties the set -/
theorem shape_capSet_Clear : Facts.shape_capSet_Clear = some "d5a27384d80355f8" := rfl

/-- [C19] `capSet.Add` is the body the model transcribes -/
theorem shape_capSet_Add : Facts.shape_capSet_Add = some "fdcbdb638fc9d349" := rfl

/-- [C19] `capSet.Has` is the body the model transcribes -/
theorem shape_capSet_Has : Facts.shape_capSet_Has = some "6d7afb0af0112d9e" := rfl

/-- [C19] `capSet.Intersect` is the body the model transcribes -/
theorem shape_capSet_Intersect : Facts.shape_capSet_Intersect = some "744f4dda468b91f1" := rfl

/-- [C19] `capSet.Slice` is the body the model transcribes -/
theorem shape_capSet_Slice : Facts.shape_capSet_Slice = some "359693340f0d0456" := rfl

/-- [C19] `capSet.Size` is the body the model transcribes -/
theorem shape_capSet_Size : Facts.shape_capSet_Size = some "c8e15fe017984bd6" := rfl


/-- [C20] `cfg.Pass` is mentioned only where it is set from ConnectTo's argument and in `h_REGISTER` -/
theorem pass_read_only_in_register : Facts.cfgPassUsers = some ["ConnectToContext", "h_REGISTER"] := rfl

/-- [C18,C20] `Conn.h.REGISTER` is the body the model transcribes -/
theorem shape_Conn_h_REGISTER : Facts.shape_Conn_h_REGISTER = some "gen" := rfl

/-- [C18] `Conn.h.PING` is the body the model transcribes -/
theorem shape_Conn_h_PING : Facts.shape_Conn_h_PING = some "gen" := rfl

/-- [C18] `hasPort` is the body the model transcribes -/
theorem shape_hasPort : Facts.shape_hasPort = some "gen" := rfl

/-- [C06,C07,C18] `Conn.internalConnect` is the body the model transcribes -/
theorem shape_Conn_internalConnect : Facts.shape_Conn_internalConnect = some "bcb465179f058fe4" := rfl

/-- [C18] `Conn.dialProxy` is the body the model transcribes -/
theorem shape_Conn_dialProxy : Facts.shape_Conn_dialProxy = some "d7fcd714c9fb39d2" := rfl

/-- [C06,C07,C18] `Conn.postConnect` is the body the model transcribes -/
theorem shape_Conn_postConnect : Facts.shape_Conn_postConnect = some "d98c22de238a1327" := rfl

/-- [C06,C07,C18] `Conn.ping` is the body the model transcribes -/
theorem shape_Conn_ping : Facts.shape_Conn_ping = some "fb69317c11dce15c" := rfl

/-- [C12,C13,C14] `st.stateTracker.Wipe` is the body the model transcribes -/
theorem shape_st_stateTracker_Wipe : Facts.shape_st_stateTracker_Wipe = some "64ea5e0b342d25a2" := rfl

/-- [C12,C13,C14] `st.stateTracker.NewNick` is the body the model transcribes -/
theorem shape_st_stateTracker_NewNick : Facts.shape_st_stateTracker_NewNick = some "af2f468b9b8333ea" := rfl

/-- [C12,C13,C14] `st.stateTracker.GetNick` is the body the model transcribes -/
theorem shape_st_stateTracker_GetNick : Facts.shape_st_stateTracker_GetNick = some "6fbe1e12dd4a6890" := rfl

/-- [C12,C13,C14] `st.stateTracker.ReNick` is the body the model transcribes -/
theorem shape_st_stateTracker_ReNick : Facts.shape_st_stateTracker_ReNick = some "008ba22318962de3" := rfl

/-- [C12,C13,C14] `st.stateTracker.DelNick` is the body the model transcribes -/
theorem shape_st_stateTracker_DelNick : Facts.shape_st_stateTracker_DelNick = some "6222b110e717453b" := rfl

/-- [C12,C13,C14] `st.stateTracker.delNick` is the body the model transcribes -/
theorem shape_st_stateTracker_delNick : Facts.shape_st_stateTracker_delNick = some "8297738136f9442e" := rfl

/-- [C12,C13,C14] `st.stateTracker.NickInfo` is the body the model transcribes -/
theorem shape_st_stateTracker_NickInfo : Facts.shape_st_stateTracker_NickInfo = some "f803083d6380a605" := rfl

/-- [C12,C13,C14] `st.stateTracker.NickModes` is the body the model transcribes -/
theorem shape_st_stateTracker_NickModes : Facts.shape_st_stateTracker_NickModes = some "224f2098afdffb91" := rfl

/-- [C12,C13,C14] `st.stateTracker.NewChannel` is the body the model transcribes -/
theorem shape_st_stateTracker_NewChannel : Facts.shape_st_stateTracker_NewChannel = some "f2527c521c2f0b40" := rfl

/-- [C12,C13,C14] `st.stateTracker.GetChannel` is the body the model transcribes -/
theorem shape_st_stateTracker_GetChannel : Facts.shape_st_stateTracker_GetChannel = some "f43ccfb47acc8843" := rfl

/-- [C12,C13,C14] `st.stateTracker.DelChannel` is the body the model transcribes -/
theorem shape_st_stateTracker_DelChannel : Facts.shape_st_stateTracker_DelChannel = some "1fffe2f8566f3c49" := rfl

/-- [C12,C13,C14] `st.stateTracker.delChannel` is the body the model transcribes -/
theorem shape_st_stateTracker_delChannel : Facts.shape_st_stateTracker_delChannel = some "5c1648070a13d6f9" := rfl

/-- [C12,C13,C14] `st.stateTracker.Topic` is the body the model transcribes -/
theorem shape_st_stateTracker_Topic : Facts.shape_st_stateTracker_Topic = some "9e87b6135814fc11" := rfl

/-- [C12,C13,C14] `st.stateTracker.ChannelModes` is the body the model transcribes -/
theorem shape_st_stateTracker_ChannelModes : Facts.shape_st_stateTracker_ChannelModes = some "5283427d954b8b5a" := rfl

/-- [C12,C13,C14] `st.stateTracker.Me` is the body the model transcribes -/
theorem shape_st_stateTracker_Me : Facts.shape_st_stateTracker_Me = some "18c4088165de5583" := rfl

/-- [C12,C13,C14] `st.stateTracker.IsOn` is the body the model transcribes -/
theorem shape_st_stateTracker_IsOn : Facts.shape_st_stateTracker_IsOn = some "a6d8d270ab2d682f" := rfl

/-- [C12,C13,C14] `st.stateTracker.Associate` is the body the model transcribes -/
theorem shape_st_stateTracker_Associate : Facts.shape_st_stateTracker_Associate = some "f6953efccf743f07" := rfl

/-- [C12,C13,C14] `st.stateTracker.Dissociate` is the body the model transcribes -/
theorem shape_st_stateTracker_Dissociate : Facts.shape_st_stateTracker_Dissociate = some "b98aab7f8c5563f8" := rfl

/-- [C12,C13,C14] `st.NewTracker` is the body the model transcribes -/
theorem shape_st_NewTracker : Facts.shape_st_NewTracker = some "db6dc8934491c583" := rfl

/-- [C12,C13,C14] `st.nick.Nick` is the body the model transcribes -/
theorem shape_st_nick_Nick : Facts.shape_st_nick_Nick = some "7f0da9d87c35f498" := rfl

/-- [C12,C13,C14] `st.nick.isOn` is the body the model transcribes -/
theorem shape_st_nick_isOn : Facts.shape_st_nick_isOn = some "6b6c2592ccdb2bda" := rfl

/-- [C12,C13,C14] `st.nick.addChannel` is the body the model transcribes -/
theorem shape_st_nick_addChannel : Facts.shape_st_nick_addChannel = some "23e167dad0d541ef" := rfl

/-- [C12,C13,C14] `st.nick.delChannel` is the body the model transcribes -/
theorem shape_st_nick_delChannel : Facts.shape_st_nick_delChannel = some "fb9f0b1e375e6d29" := rfl

/-- [C12,C13,C14] `st.nick.parseModes` is the body the model transcribes -/
theorem shape_st_nick_parseModes : Facts.shape_st_nick_parseModes = some "af02e94a03ddcf8d" := rfl

/-- [C12,C13,C14] `st.channel.Channel` is the body the model transcribes -/
theorem shape_st_channel_Channel : Facts.shape_st_channel_Channel = some "6a1d0ab3683cda07" := rfl

/-- [C12,C13,C14] `st.channel.isOn` is the body the model transcribes -/
theorem shape_st_channel_isOn : Facts.shape_st_channel_isOn = some "dd618f0fec45e54a" := rfl

/-- [C12,C13,C14] `st.channel.addNick` is the body the model transcribes -/
theorem shape_st_channel_addNick : Facts.shape_st_channel_addNick = some "169fe40cecb252b1" := rfl

/-- [C12,C13,C14] `st.channel.delNick` is the body the model transcribes -/
theorem shape_st_channel_delNick : Facts.shape_st_channel_delNick = some "4f158403311f95bf" := rfl

/-- [C12,C13,C14] `st.channel.parseModes` is the body the model transcribes -/
theorem shape_st_channel_parseModes : Facts.shape_st_channel_parseModes = some "34ebc36c483b0dcf" := rfl

/-- [C12,C13,C14] `st.NickMode.Copy` is the body the model transcribes -/
theorem shape_st_NickMode_Copy : Facts.shape_st_NickMode_Copy = some "71af84033dcb74d0" := rfl

/-- [C12,C13,C14] `st.ChanMode.Copy` is the body the model transcribes -/
theorem shape_st_ChanMode_Copy : Facts.shape_st_ChanMode_Copy = some "6494cbd9c1df5f20" := rfl

/-- [C12,C13,C14] `st.ChanPrivs.Copy` is the body the model transcribes -/
theorem shape_st_ChanPrivs_Copy : Facts.shape_st_ChanPrivs_Copy = some "57cbab7c218b67d0" := rfl

/-- [C12,C13,C14] `st.newNick` is the body the model transcribes -/
theorem shape_st_newNick : Facts.shape_st_newNick = some "db7033187a769df5" := rfl

/-- [C12,C13,C14] `st.newChannel` is the body the model transcribes -/
theorem shape_st_newChannel : Facts.shape_st_newChannel = some "362560a59c5095b8" := rfl

/-- [C03,C06,C07,C09] `Conn.send` is the body the model transcribes -/
theorem shape_Conn_send : Facts.shape_Conn_send = some "682b1bb52ac0ab80" := rfl

/-- [C03,C05,C16] `Conn.dispatch` is the body the model transcribes -/
theorem shape_Conn_dispatch : Facts.shape_Conn_dispatch = some "3d33b8cc2bacfd5b" := rfl

/-- [C03,C05,C16] `hSet.dispatch` is the body the model transcribes -/
theorem shape_hSet_dispatch : Facts.shape_hSet_dispatch = some "b159c1b6e35eedc0" := rfl

/-- [C03,C05,C06,C07,C16] `Conn.runLoop` is the body the model transcribes -/
theorem shape_Conn_runLoop : Facts.shape_Conn_runLoop = some "3e135fe163f79108" := rfl

/-- [C01,C02,C03] `Conn.recv` is the body the model transcribes -/
theorem shape_Conn_recv : Facts.shape_Conn_recv = some "109b701370dc7bfc" := rfl

/-- [C04] `hSet.add` is the body the model transcribes -/
theorem shape_hSet_add : Facts.shape_hSet_add = some "272dbafe1838442e" := rfl

/-- [C04] `hSet.remove` is the body the model transcribes -/
theorem shape_hSet_remove : Facts.shape_hSet_remove = some "15610089a1680600" := rfl

/-- [C04] `hSet.getHandlers` is the body the model transcribes -/
theorem shape_hSet_getHandlers : Facts.shape_hSet_getHandlers = some "9637d3dbb010d405" := rfl

/-- [C04] `hNode.Remove` is the body the model transcribes -/
theorem shape_hNode_Remove : Facts.shape_hNode_Remove = some "115aec96975afd3e" := rfl

/-- [C04] `handlerSet` is the body the model transcribes -/
theorem shape_handlerSet : Facts.shape_handlerSet = some "67befe3fc45d790c" := rfl

/-- [C04] `Conn.Handle` is the body the model transcribes -/
theorem shape_Conn_Handle : Facts.shape_Conn_Handle = some "389e544ec4ab02f9" := rfl

/-- [C04] `Conn.HandleBG` is the body the model transcribes -/
theorem shape_Conn_HandleBG : Facts.shape_Conn_HandleBG = some "2efc60d97e743353" := rfl

/-- [C04] `Conn.HandleFunc` is the body the model transcribes -/
theorem shape_Conn_HandleFunc : Facts.shape_Conn_HandleFunc = some "bed3694ecdbd08ad" := rfl

/-- [C04] `Conn.handle` is the body the model transcribes -/
theorem shape_Conn_handle : Facts.shape_Conn_handle = some "922ae6235530898e" := rfl

/-- [C02,C04,C15,C16] `hNode.Handle` is the body the model transcribes -/
theorem shape_hNode_Handle : Facts.shape_hNode_Handle = some "20a4045af74921ab" := rfl

/-- [C16] `Conn.LogPanic` is the body the model transcribes -/
theorem shape_Conn_LogPanic : Facts.shape_Conn_LogPanic = some "213e05d3daeae8de" := rfl

/-- [C05,C13] `Conn.addIntHandlers` is the body the model transcribes -/
theorem shape_Conn_addIntHandlers : Facts.shape_Conn_addIntHandlers = some "34995594cd6c49de" := rfl

/-- [C05,C13] `Conn.addSTHandlers` is the body the model transcribes -/
theorem shape_Conn_addSTHandlers : Facts.shape_Conn_addSTHandlers = some "3f2e602f79209909" := rfl

/-- [C05,C13] `Conn.delSTHandlers` is the body the model transcribes -/
theorem shape_Conn_delSTHandlers : Facts.shape_Conn_delSTHandlers = some "3b3b0f98101671cd" := rfl

/-- [C01,C02,C03,C06,C07] `Conn.recvFor` is the body the model transcribes -/
theorem shape_Conn_recvFor : Facts.shape_Conn_recvFor = some "252c29c51d77d72b" := rfl


/-- [C02,C05,C13,C14,C16] every exported tracker method takes the mutex first (`Lock; defer Unlock`), NewNick/NewChannel after a
prologue that does not mention the tracker at all. The `defer` is what C02 / C16 rest on when a built-in handler panics inside
the tracker: the recovered panic leaves no lock behind (a getter that unlocks by hand keeps the mutex when the panic comes
before its `Unlock`, and the next line that needs the tracker wedges the client) -/
theorem tracker_lock_discipline : Facts.trackerLockDiscipline = some ["Associate:first", "ChannelModes:first", "DelChannel:first",
    "DelNick:first", "Dissociate:first", "GetChannel:first", "GetNick:first", "IsOn:first", "Me:first", "NewChannel:after-pure-prologue",
    "NewNick:after-pure-prologue", "NickInfo:first", "NickModes:first", "ReNick:first", "String:first", "Topic:first", "Wipe:first"] := rfl

/-- [C14] every exported tracker method returns only nil / false / a debugging string, or the result of `.Nick()`,
`.Channel()`, `.Copy()` or `isOn` - the four functions the snapshot heap model transcribes -/
theorem tracker_returns : Facts.trackerReturns = some ["Associate:cp.Copy()", "Associate:nil", "ChannelModes:ch.Channel()", "ChannelModes:nil",
    "DelChannel:ch.Channel()", "DelChannel:nil", "DelNick:nil", "DelNick:nk.Nick()", "GetChannel:ch.Channel()", "GetChannel:nil", "GetNick:nil",
    "GetNick:nk.Nick()", "IsOn:false", "IsOn:nil", "IsOn:nk.isOn(ch)", "Me:st.me.Nick()", "NewChannel:nil", "NewChannel:st.chans[c].Channel()",
    "NewNick:nil", "NewNick:st.nicks[n].Nick()", "NickInfo:nil", "NickInfo:nk.Nick()", "NickModes:nil", "NickModes:nk.Nick()", "ReNick:nil",
    "ReNick:nk.Nick()", "String:str", "Topic:ch.Channel()", "Topic:nil"] := rfl

/-- [C06,C07] `Conn.ConnectContext` is the body the model transcribes -/
theorem shape_Conn_ConnectContext : Facts.shape_Conn_ConnectContext = some "6b90b9428cf36912" := rfl

/-- [C06,C07] `Conn.Close` is the body the model transcribes -/
theorem shape_Conn_Close : Facts.shape_Conn_Close = some "dd307aad985d0218" := rfl

/-- [C03,C06,C07] `Conn.closeFor` is the body the model transcribes (it keeps `mu` until every goroutine, and so every
foreground handler, of the connection has finished: a new connection cannot start before) -/
theorem shape_Conn_closeFor : Facts.shape_Conn_closeFor = some "7a4905e768233287" := rfl

/-- [C03,C06,C07,C18,C19] `Conn.initialise` is the body the model transcribes: both queues are made afresh for every connection
(nothing queued on or for an earlier connection reaches the next one) -/
theorem shape_Conn_initialise : Facts.shape_Conn_initialise = some "f0d142f345650584" := rfl

/-- [C06,C07] `Conn.Connected` is the body the model transcribes: it reads the flag under `cmu`, not under `mu`, so
a handler that asks does not wait for a teardown in progress (the model's handlers never need `mu`) -/
theorem shape_Conn_Connected : Facts.shape_Conn_Connected = some "9be693d3ea187476" := rfl

/-- [C06,C07] `Conn.setConnected`: the only writer of the flag; `cmu` is held for the assignment alone -/
theorem shape_Conn_setConnected : Facts.shape_Conn_setConnected = some "fafe01e0098f8642" := rfl

/-- [C02,C13] `Conn.h.JOIN` is the body the model transcribes -/
theorem shape_Conn_h_JOIN : Facts.shape_Conn_h_JOIN = some "4e8bac6d5ca61bab" := rfl

/-- [C02,C13] `Conn.h.PART` is the body the model transcribes -/
theorem shape_Conn_h_PART : Facts.shape_Conn_h_PART = some "18ef056c9dd03e49" := rfl

/-- [C02,C13] `Conn.h.KICK` is the body the model transcribes -/
theorem shape_Conn_h_KICK : Facts.shape_Conn_h_KICK = some "df74f1564422b6fe" := rfl

/-- [C02,C13] `Conn.h.QUIT` is the body the model transcribes -/
theorem shape_Conn_h_QUIT : Facts.shape_Conn_h_QUIT = some "fcc5e93767cd9b87" := rfl

/-- [C02,C13] `Conn.h.MODE` is the body the model transcribes -/
theorem shape_Conn_h_MODE : Facts.shape_Conn_h_MODE = some "101cc699eb0e07dc" := rfl

/-- [C02,C13] `Conn.h.TOPIC` is the body the model transcribes -/
theorem shape_Conn_h_TOPIC : Facts.shape_Conn_h_TOPIC = some "55a6d5cbdca4d8b5" := rfl

/-- [C02,C13] `Conn.h.311` is the body the model transcribes -/
theorem shape_Conn_h_311 : Facts.shape_Conn_h_311 = some "83ca2ad8ad48c63a" := rfl

/-- [C02,C13] `Conn.h.324` is the body the model transcribes -/
theorem shape_Conn_h_324 : Facts.shape_Conn_h_324 = some "632000adbbef5a1c" := rfl

/-- [C02,C13] `Conn.h.332` is the body the model transcribes -/
theorem shape_Conn_h_332 : Facts.shape_Conn_h_332 = some "9bba4416deaee0ae" := rfl

/-- [C02,C13] `Conn.h.352` is the body the model transcribes -/
theorem shape_Conn_h_352 : Facts.shape_Conn_h_352 = some "e4aa9dc387218e58" := rfl

/-- [C02,C13] `Conn.h.353` is the body the model transcribes -/
theorem shape_Conn_h_353 : Facts.shape_Conn_h_353 = some "c8b1c7c5aa9b3462" := rfl

/-- [C02,C13] `Conn.h.671` is the body the model transcribes -/
theorem shape_Conn_h_671 : Facts.shape_Conn_h_671 = some "80efc4f70dec750d" := rfl

/-- [C02,C13] `Conn.h.CTCP` is the body the model transcribes -/
theorem shape_Conn_h_CTCP : Facts.shape_Conn_h_CTCP = some "gen" := rfl



/-! ### dependency closures

One obligation per property: the hash over (name, normalised-body fingerprint) of every function, variable, constant and type of
the client and state packages that the property's root functions can reach through a conservative name-based call graph
(`harness/cmd/extract/closure.go`; the member lists are in `Facts.golden`). A change anywhere a property's code paths can go
moves its obligation, however far from the property's anchors it is made. -/

/-- [C01] everything the roots of C01 can reach is as pinned -/
theorem closure_C01 : Facts.closure_C01 = some "b3a2fb110ca2a342" := rfl

/-- [C02] everything the roots of C02 can reach is as pinned -/
theorem closure_C02 : Facts.closure_C02 = some "b3a2fb110ca2a342" := rfl

/-- [C03] everything the roots of C03 can reach is as pinned -/
theorem closure_C03 : Facts.closure_C03 = some "40781ca377106822" := rfl

/-- [C04] everything the roots of C04 can reach is as pinned -/
theorem closure_C04 : Facts.closure_C04 = some "b3a2fb110ca2a342" := rfl

/-- [C05] everything the roots of C05 can reach is as pinned -/
theorem closure_C05 : Facts.closure_C05 = some "b3a2fb110ca2a342" := rfl

/-- [C06] everything the roots of C06 can reach is as pinned -/
theorem closure_C06 : Facts.closure_C06 = some "40781ca377106822" := rfl

/-- [C07] everything the roots of C07 can reach is as pinned -/
theorem closure_C07 : Facts.closure_C07 = some "40781ca377106822" := rfl

/-- [C08] everything the roots of C08 can reach is as pinned -/
theorem closure_C08 : Facts.closure_C08 = some "f2e9f0f8012d4b92" := rfl

/-- [C09] everything the roots of C09 can reach is as pinned -/
theorem closure_C09 : Facts.closure_C09 = some "697baf3a53e84a5e" := rfl

/-- [C10] everything the roots of C10 can reach is as pinned -/
theorem closure_C10 : Facts.closure_C10 = some "0147731905c66491" := rfl

/-- [C11] everything the roots of C11 can reach is as pinned -/
theorem closure_C11 : Facts.closure_C11 = some "ec13fabaefea5760" := rfl

/-- [C12] everything the roots of C12 can reach is as pinned -/
theorem closure_C12 : Facts.closure_C12 = some "6ac47a78efe04476" := rfl

/-- [C13] everything the roots of C13 can reach is as pinned -/
theorem closure_C13 : Facts.closure_C13 = some "940804d6c9d89a99" := rfl

/-- [C14] everything the roots of C14 can reach is as pinned -/
theorem closure_C14 : Facts.closure_C14 = some "6ac47a78efe04476" := rfl

/-- [C15] everything the roots of C15 can reach is as pinned -/
theorem closure_C15 : Facts.closure_C15 = some "eae4d61ba5f0516e" := rfl

/-- [C16] everything the roots of C16 can reach is as pinned -/
theorem closure_C16 : Facts.closure_C16 = some "40781ca377106822" := rfl

/-- [C17] everything the roots of C17 can reach is as pinned -/
theorem closure_C17 : Facts.closure_C17 = some "7f964e1a7d96abcf" := rfl

/-- [C18] everything the roots of C18 can reach is as pinned -/
theorem closure_C18 : Facts.closure_C18 = some "8edb04fc69f5e153" := rfl

/-- [C19] everything the roots of C19 can reach is as pinned -/
theorem closure_C19 : Facts.closure_C19 = some "4c7b0f3229c112f3" := rfl

/-- [C20] everything the roots of C20 can reach is as pinned -/
theorem closure_C20 : Facts.closure_C20 = some "40781ca377106822" := rfl

end FactsCheck
