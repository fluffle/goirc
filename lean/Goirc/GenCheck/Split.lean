import Goirc.GenCheck
import Goirc.GenCheck.ParseLemmas
/-!
# Generated = model: `indexFragment`, `splitMessage`, `splitArgs`
The generated loops carry a fuel bound (`len(msg)+1`, `len(args)+1`); the theorems show the bound is never
reached (`.error .fuel` does not occur), that no slice expression panics, and that the result is the model's.
The `do` blocks defined here and the one inside `splitArgs_unfold` are the text of `Gen/Pure.lean` (generated, not in the repository;
`Gen/Pure.golden` is its committed copy), loop bodies with the loop state taken apart by hand, temporaries `t1 ..` included. Each is
tied to the generated function by `rfl`, `show` or `exact`, which hold only while the texts agree: that is what makes an obligation
fail when the generated code changes.
-/
namespace GenCheck
open Go ParseLemmas

theorem lastIndexFrom2 (a b : UInt8) (s : Bytes) (i : Nat) (acc : Int) :
    Rt.lastIndexFrom [a, b] s i acc = Go.lastIndex2 a b s i acc := by
  induction s generalizing i acc with
  | nil => simp [Rt.lastIndexFrom, Go.lastIndex2]
  | cons x rest ih =>
    cases rest with
    | nil => simp [Rt.lastIndexFrom, Go.lastIndex2, hasPrefix]
    | cons y rest =>
      rw [Rt.lastIndexFrom, ih, Go.lastIndex2]
      simp [hasPrefix]

theorem lastIndexFrom1 (a : UInt8) (s : Bytes) (i : Nat) (acc : Int) :
    Rt.lastIndexFrom [a] s i acc = Go.lastIndex1 a s i acc := by
  induction s generalizing i acc with
  | nil => simp [Rt.lastIndexFrom, Go.lastIndex1]
  | cons x rest ih =>
      rw [Rt.lastIndexFrom, ih, Go.lastIndex1]
      simp [hasPrefix]

/-- body of the loop over the separators in `indexFragment` -/
def fragBody (s sep : Bytes) (max : Int) : Rt.M (ForInStep Int) := do
  let mut max := max
  let mut idx : Int := Rt.lastIndex s sep
  if decide (idx > max) then
    max := idx
  return .yield max

/-- `indexFragment` after the loop -/
def fragTailK (s : Bytes) (max : Int) : Rt.M Int := do
  if decide (max > 0) then
    return max + 2
  let mut idx : Int := Rt.lastIndex s [32] -- " "
  if decide (idx > 0) then
    return idx + 1
  return -1

theorem fragLoop (s : Bytes) (l : List UInt8) (m : Int) :
    forIn (l.map fun p => [p, (32 : UInt8)]) m (fragBody s)
      = .ok (l.foldl (fun m p => if lastIndex2 p 32 s 0 (-1) > m then lastIndex2 p 32 s 0 (-1) else m) m) := by
  induction l generalizing m with
  | nil => rfl
  | cons p l ih =>
    simp only [List.map_cons, List.forIn_cons, List.foldl_cons, fragBody, Rt.lastIndex, lastIndexFrom2]
    by_cases h : lastIndex2 p 32 s 0 (-1) > m
    · simp only [h, decide_true, if_true]
      exact ih _
    · simp only [h, decide_false, if_false]
      exact ih _

theorem fragTail (s : Bytes) (m : Int) :
    fragTailK s m = .ok (if m > 0 then m + 2 else if lastIndex1 32 s 0 (-1) > 0 then lastIndex1 32 s 0 (-1) + 1 else -1) := by
  simp only [fragTailK, Rt.lastIndex, lastIndexFrom1, pure, Except.pure, decide_eq_true_eq]
  split
  · rfl
  · split <;> rfl

/-- [C11] `indexFragment` as generated from commands.go is the model's -/
theorem gen_indexFragment (s : Bytes) : Gen.indexFragment s = .ok (Go.indexFragment s) := by
  have h := fragLoop s Go.seps (-1)
  simp only [Go.seps, List.map_cons, List.map_nil] at h
  show forIn _ _ (fragBody s) >>= fragTailK s = _
  rw [h]
  exact fragTail s _

/-- loop body of the generated `splitMessage` -/
def smBody (splitLen : Int) (_ : Nat) (r : Bytes × List Bytes) : Rt.M (ForInStep (Bytes × List Bytes)) := do
  let mut msg := r.1
  let mut msgs := r.2
  if !(decide (Rt.len msg > splitLen)) then return .done (msg, msgs)
  let t1 ← Rt.sliceTo msg (splitLen - 3)
  let mut idx : Int ← Gen.indexFragment t1
  if decide (idx < 0) then
    idx := splitLen - 3
  let t2 ← Rt.sliceTo msg idx
  msgs := msgs ++ [t2 ++ [46, 46, 46]] -- "..."
  msg ← Rt.sliceFrom msg idx
  return .yield (msg, msgs)

/-- `splitMessage` once `splitLen` has its value -/
def splitMessageK (msg : Bytes) (splitLen : Int) : Rt.M (List Bytes) := do
  let r ← forIn (List.range (Int.toNat (Rt.len msg + 1))) (msg, ([] : List Bytes)) (smBody splitLen)
  if decide (Rt.len r.1 > splitLen) then throw Rt.Panic.fuel
  return r.2 ++ [r.1]

theorem smBody_done (n : Nat) (x : Nat) (msg : Bytes) (msgs : List Bytes) (h : ¬ n < msg.length) :
    smBody n x (msg, msgs) = .ok (.done (msg, msgs)) := by
  have : ¬ (Rt.len msg > (n : Int)) := by simp [Rt.len]; omega
  simp [smBody, this]

theorem smBody_step (n : Nat) (hn : 13 ≤ n) (x : Nat) (msg : Bytes) (msgs : List Bytes) (h : n < msg.length) :
    smBody n x (msg, msgs) = .ok (.yield (msg.drop (cutIdx msg n), msgs ++ [msg.take (cutIdx msg n) ++ dots])) := by
  have h1 : (Rt.len msg > (n : Int)) := by simp [Rt.len]; omega
  have e : ((n : Int) - 3) = ((n - 3 : Nat) : Int) := by omega
  have hlen : cutIdx msg n ≤ msg.length := by have := cutIdx_bound msg n hn h; omega
  simp only [smBody, h1, decide_true, Bool.not_true, Bool.false_eq_true, if_false, e, sliceTo_nat msg (n - 3) (by omega),
    gen_indexFragment, bind, Except.bind]
  -- in either case the index the code cuts at is `cutIdx msg n`
  by_cases hneg : indexFragment (msg.take (n - 3)) < 0
  · have hcut : n - 3 = cutIdx msg n := by simp [cutIdx, hneg]
    simp only [hneg, decide_true, if_true]
    rw [hcut, sliceFrom_nat _ _ hlen]
    rfl
  · have hi : indexFragment (msg.take (n - 3)) = (cutIdx msg n : Nat) := by rw [cutIdx, if_neg hneg]; omega
    simp only [hneg, decide_false, Bool.false_eq_true, if_false]
    rw [hi, sliceTo_nat _ _ hlen, sliceFrom_nat _ _ hlen]
    rfl

theorem smLoop (n : Nat) (hn : 13 ≤ n) (l : List Nat) (msg : Bytes) (msgs : List Bytes) (hl : msg.length < l.length) :
    ∃ m' ms', forIn l (msg, msgs) (smBody n) = .ok (m', ms') ∧ m'.length ≤ n ∧
      ms' ++ [m'] = msgs ++ splitLoop msg n hn := by
  induction l generalizing msg msgs with
  | nil => exact absurd hl (Nat.not_lt_zero _)
  | cons x l ih =>
    by_cases h : n < msg.length
    · have hb := cutIdx_bound msg n hn h
      obtain ⟨m', ms', h1, h2, h3⟩ := ih (msg.drop (cutIdx msg n)) (msgs ++ [msg.take (cutIdx msg n) ++ dots])
        (by simp at hl ⊢; omega)
      refine ⟨m', ms', ?_, h2, ?_⟩
      · rw [List.forIn_cons, smBody_step n hn x msg msgs h]
        exact h1
      · rw [h3, splitLoop.eq_1 msg]; simp [h]
    · refine ⟨msg, msgs, ?_, by omega, ?_⟩
      · rw [List.forIn_cons, smBody_done n x msg msgs h]; rfl
      · rw [splitLoop]; simp [h]

theorem smMain (msg : Bytes) (n : Nat) (hn : 13 ≤ n) : splitMessageK msg n = .ok (splitLoop msg n hn) := by
  obtain ⟨m', ms', h1, h2, h3⟩ := smLoop n hn (List.range (Rt.len msg + 1).toNat) msg [] (by simp [Rt.len])
  rw [splitMessageK, h1]
  have : ¬ (Rt.len m' > (n : Int)) := by simp [Rt.len]; omega
  simp only [bind, Except.bind, this, decide_false, Bool.false_eq_true, if_false]
  simp at h3
  rw [← h3]; rfl

/-- [C11] `splitMessage` as generated from commands.go is the model's, for every text and every splitLen -/
theorem gen_splitMessage (msg : Bytes) (splitLen : Int) : Gen.splitMessage msg splitLen = .ok (Go.splitMessage msg splitLen) := by
  unfold Gen.splitMessage Go.splitMessage
  by_cases h : splitLen < 13
  · simp only [h, decide_true, if_true, dite_true, Gen.defaultSplit]
    exact smMain msg 450 (by decide)
  · simp only [h, decide_false, Bool.false_eq_true, if_false, dite_false]
    have e : splitLen = (splitLen.toNat : Int) := by omega
    have := smMain msg splitLen.toNat (by omega)
    rw [← e] at this
    exact this

/-- inner loop body of the generated `splitArgs` -/
def saInner (args : List Bytes) (maxLen : Int) (_ : Nat) (r : Int × Bytes) : Rt.M (ForInStep (Int × Bytes)) := do
  let mut i := r.1
  let mut currArg := r.2
  let t2 ←
    if decide (i < Rt.len args) then do
      let t1 ← Rt.idx args i
      pure (decide ((Rt.len currArg + Rt.len t1) + 1 < maxLen))
    else pure false
  if !t2 then return .done (i, currArg)
  let t3 ← Rt.idx args i
  currArg := currArg ++ ([32] ++ t3) -- " "
  i := i + 1
  return .yield (i, currArg)

/-- outer loop body of the generated `splitArgs` -/
def saOuter (args : List Bytes) (maxLen : Int) (_ : Nat) (r : List Bytes × Int) : Rt.M (ForInStep (List Bytes × Int)) := do
  let mut res := r.1
  let mut i := r.2
  if !(decide (i < Rt.len args)) then return .done (res, i)
  let mut currArg : Bytes ← Rt.idx args i
  i := i + 1
  let r' ← forIn (List.range (Int.toNat (Rt.len args + 1))) (i, currArg) (saInner args maxLen)
  i := r'.1
  currArg := r'.2
  let t5 ←
    if decide (i < Rt.len args) then do
      let t4 ← Rt.idx args i
      pure (decide ((Rt.len currArg + Rt.len t4) + 1 < maxLen))
    else pure false
  if t5 then throw Rt.Panic.fuel
  res := res ++ [currArg]
  return .yield (res, i)

theorem splitArgs_unfold (args : List Bytes) (maxLen : Int) : Gen.splitArgs args maxLen =
    (do
      let r ← forIn (List.range (Int.toNat (Rt.len args + 1))) (([] : List Bytes), (0 : Int)) (saOuter args maxLen)
      if decide (r.2 < Rt.len args) then throw Rt.Panic.fuel
      return r.1) := rfl

theorem saInner_end (args : List Bytes) (maxLen : Int) (x : Nat) (i : Nat) (c : Bytes) (h : ¬ i < args.length) :
    saInner args maxLen x ((i : Int), c) = .ok (.done ((i : Int), c)) := by
  have ht : ¬ ((i : Int) < (args.length : Int)) := by omega
  simp only [saInner, Rt.len, ht, decide_false, Bool.false_eq_true, if_false]
  rfl

theorem saInner_stop (args : List Bytes) (maxLen : Int) (x : Nat) (i : Nat) (c : Bytes) (h : i < args.length)
    (hc : ¬ ((c.length : Int) + (args[i].length : Int) + 1 < maxLen)) :
    saInner args maxLen x ((i : Int), c) = .ok (.done ((i : Int), c)) := by
  have ht : ((i : Int) < (args.length : Int)) := by omega
  simp only [saInner, Rt.len, ht, decide_true, if_true, idx_ok args i h, bind, Except.bind, pure, Except.pure, hc, decide_false]
  rfl

theorem saInner_step (args : List Bytes) (maxLen : Int) (x : Nat) (i : Nat) (c : Bytes) (h : i < args.length)
    (hc : ((c.length : Int) + (args[i].length : Int) + 1 < maxLen)) :
    saInner args maxLen x ((i : Int), c) = .ok (.yield (((i + 1 : Nat) : Int), c ++ [SP] ++ args[i])) := by
  have ht : ((i : Int) < (args.length : Int)) := by omega
  simp only [saInner, Rt.len, ht, decide_true, if_true, idx_ok args i h, bind, Except.bind, pure, Except.pure, hc]
  simp [SP]

/-- The inner loop from index `i` with `c` accumulated. `i ≤ i' ≤ len(args)` is what the outer loop needs to go on and to see that it
advances; the third conjunct is the exit condition (left by `break`, not by running out of fuel: the next argument, if there is one,
does not fit), which the outer loop's test after the loop reads; the last: the model's recursion has taken in the same arguments. -/
theorem saInnerLoop (args : List Bytes) (maxLen : Int) (l : List Nat) (i : Nat) (c : Bytes)
    (hi : i ≤ args.length) (hl : args.length - i < l.length) :
    ∃ (i' : Nat) (c' : Bytes), forIn l ((i : Int), c) (saInner args maxLen) = .ok ((i' : Int), c') ∧
      i ≤ i' ∧ i' ≤ args.length ∧
      (∀ h : i' < args.length, ¬ ((c'.length : Int) + (args[i'].length : Int) + 1 < maxLen)) ∧
      splitArgsAux maxLen (some c) (args.drop i) = c' :: splitArgsAux maxLen none (args.drop i') := by
  induction l generalizing i c with
  | nil => exact absurd hl (Nat.not_lt_zero _)
  | cons x l ih =>
    by_cases h : i < args.length
    · by_cases hc : ((c.length : Int) + (args[i].length : Int) + 1 < maxLen)
      · obtain ⟨i', c', h1, h2, h3, h4, h5⟩ := ih (i + 1) (c ++ [SP] ++ args[i]) (by omega)
          (by simp only [List.length_cons] at hl; omega)
        refine ⟨i', c', ?_, by omega, h3, h4, ?_⟩
        · rw [List.forIn_cons, saInner_step args maxLen x i c h hc]; exact h1
        · rw [← h5, List.drop_eq_getElem_cons h]
          simp only [splitArgsAux, hc, if_true]
      · refine ⟨i, c, ?_, Nat.le_refl _, hi, fun _ => hc, ?_⟩
        · rw [List.forIn_cons, saInner_stop args maxLen x i c h hc]; rfl
        · rw [List.drop_eq_getElem_cons h]
          simp only [splitArgsAux, hc, if_false]
    · refine ⟨i, c, ?_, Nat.le_refl _, hi, fun h' => absurd h' h, ?_⟩
      · rw [List.forIn_cons, saInner_end args maxLen x i c h]; rfl
      · rw [List.drop_of_length_le (by omega)]; rfl

theorem saOuter_end (args : List Bytes) (maxLen : Int) (x : Nat) (i : Nat) (res : List Bytes) (h : ¬ i < args.length) :
    saOuter args maxLen x (res, (i : Int)) = .ok (.done (res, (i : Int))) := by
  have ht : ¬ ((i : Int) < (args.length : Int)) := by omega
  simp only [saOuter, Rt.len, ht, decide_false, Bool.not_false, if_true]
  rfl

theorem saOuter_step (args : List Bytes) (maxLen : Int) (x : Nat) (i : Nat) (res : List Bytes) (h : i < args.length) :
    ∃ (i' : Nat) (c' : Bytes), saOuter args maxLen x (res, (i : Int)) = .ok (.yield (res ++ [c'], (i' : Int))) ∧
      i < i' ∧ i' ≤ args.length ∧
      splitArgsAux maxLen none (args.drop i) = c' :: splitArgsAux maxLen none (args.drop i') := by
  obtain ⟨i', c', h1, h2, h3, h4, h5⟩ := saInnerLoop args maxLen (List.range (Rt.len args + 1).toNat) (i + 1) args[i]
    (by omega) (by simp [Rt.len]; omega)
  refine ⟨i', c', ?_, by omega, h3, ?_⟩
  · have ht : ((i : Int) < (args.length : Int)) := by omega
    have e : ((i : Int) + 1) = ((i + 1 : Nat) : Int) := by omega
    simp only [saOuter, idx_ok args i h, bind, Except.bind]
    rw [e, h1]
    simp only [Rt.len, ht, decide_true, Bool.not_true, Bool.false_eq_true, if_false]
    by_cases h6 : i' < args.length
    · have ht' : ((i' : Int) < (args.length : Int)) := by omega
      simp only [ht', decide_true, if_true, idx_ok args i' h6, pure, Except.pure, h4 h6, decide_false, Bool.false_eq_true, if_false]
    · have ht' : ¬ ((i' : Int) < (args.length : Int)) := by omega
      simp only [ht', decide_false, Bool.false_eq_true, if_false, pure, Except.pure]
  · rw [← h5, List.drop_eq_getElem_cons h]; rfl

theorem saOuterLoop (args : List Bytes) (maxLen : Int) (l : List Nat) (i : Nat) (res : List Bytes)
    (hi : i ≤ args.length) (hl : args.length - i < l.length) :
    forIn l (res, (i : Int)) (saOuter args maxLen) =
      .ok (res ++ splitArgsAux maxLen none (args.drop i), (args.length : Int)) := by
  induction l generalizing i res with
  | nil => exact absurd hl (Nat.not_lt_zero _)
  | cons x l ih =>
    by_cases h : i < args.length
    · obtain ⟨i', c', h1, h2, h3, h4⟩ := saOuter_step args maxLen x i res h
      rw [List.forIn_cons, h1]
      show forIn l (res ++ [c'], (i' : Int)) (saOuter args maxLen) = _
      rw [ih i' (res ++ [c']) h3 (by simp only [List.length_cons] at hl; omega), h4]
      simp
    · have : i = args.length := by omega
      subst this
      rw [List.forIn_cons, saOuter_end args maxLen x _ res h, List.drop_of_length_le (Nat.le_refl _)]
      simp only [splitArgsAux, List.append_nil]
      rfl

/-- [C08,C19] `splitArgs` as generated from commands.go is the model's -/
theorem gen_splitArgs (args : List Bytes) (maxLen : Int) : Gen.splitArgs args maxLen = .ok (Go.splitArgs args maxLen) := by
  rw [splitArgs_unfold]
  have := saOuterLoop args maxLen (List.range (Rt.len args + 1).toNat) 0 [] (Nat.zero_le _) (by simp [Rt.len])
  simp only [Int.natCast_zero] at this
  rw [this]
  simp only [bind, Except.bind, Rt.len, Int.lt_irrefl, decide_false, Bool.false_eq_true, if_false]
  simp [Go.splitArgs]

end GenCheck
