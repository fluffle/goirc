import Goirc.GenCheck
import Goirc.GenCheck.Small
import Goirc.GenCheck.ParseLemmas
import Goirc.Proofs.Line
/-!
# Generated = model: `parseUserHost`, `ParseLine`
The central obligation: the parser as generated from line.go - with every `s[i]`, `s[i:j]`, `a[i] = v` a checked
operation - never panics on any byte string and computes exactly the readable model `Go.parseLine` that
`Props.C01.parse_render` (round trip) and `Props.C02` are stated about.

`Gen.ParseLine` is cut into its blocks (`parseLineK`: tag section; `tagBodyK`: body of the loop over `strings.Split(rawTags, ";")`;
`sourceK`: source section; `restK`: the split into arguments; `argsK`: verb and arguments; `ctcpK`: the CTCP block), each a do-block
with the same text as the generated code.  `ParseLine_eq_K` holds by `rfl` (so it fails when the generated code changes), and each
block is proved equal to the model function of the same stage (`parseTags`/`addTag`, `parseSource`/`withSource`, `parseRest`,
`ctcpRewrite`).
-/
namespace GenCheck
open Go

section Helpers
open Gen ParseLemmas

/-- the CTCP block of `ParseLine` up to `return line` -/
def ctcpK (ext : UnicodeExt) (line : Gen.Line) : Rt.M (Option Gen.Line) := do
  let mut line := line
  let t17 ←
    if (line.Cmd == Gen.PRIVMSG || line.Cmd == Gen.NOTICE) && decide (Rt.len line.Args > 1) then do
      let t16 ← Rt.idx line.Args 1
      pure (decide (Rt.len t16 > 2))
    else pure false
  let t19 ←
    if t17 then do
      let t18 ← Rt.idx line.Args 1
      pure (hasPrefix t18 [1]) -- "\001"
    else pure false
  let t21 ←
    if t19 then do
      let t20 ← Rt.idx line.Args 1
      pure (hasSuffix t20 [1]) -- "\001"
    else pure false
  if t21 then
    let t22 ← Rt.idx line.Args 1
    let mut t : List Bytes := Rt.splitN (Rt.trim t22 [1]) [32] 2 -- "\001", " "
    if decide (Rt.len t > 1) then
      let t23 ← Rt.idx t 1
      let t24 ← Rt.setIdx line.Args 1 t23
      line := { line with Args := t24 }
    let t25 ← Rt.idx t 0
    let mut c : Bytes := toUpper ext t25
    if c == Gen.ACTION && line.Cmd == Gen.PRIVMSG then
      line := { line with Cmd := c }
    else
      if line.Cmd == Gen.PRIVMSG then
        line := { line with Cmd := Gen.CTCP }
      else
        line := { line with Cmd := Gen.CTCPREPLY }
      line := { line with Args := [c] ++ line.Args }
  return some line

/-- from `if len(args) == 0` to the end -/
def argsK (ext : UnicodeExt) (args : List Bytes) (line : Gen.Line) : Rt.M (Option Gen.Line) := do
  let mut line := line
  if Rt.len args == 0 then
    return none
  let t14 ← Rt.idx args 0
  line := { line with Cmd := toUpper ext t14 }
  if decide (Rt.len args > 1) then
    let t15 ← Rt.sliceFrom args 1
    line := { line with Args := t15 }
  ctcpK ext line

def restK (ext : UnicodeExt) (s : Bytes) (line : Gen.Line) : Rt.M (Option Gen.Line) := do
  let mut args : List Bytes := Rt.splitN s [32, 58] 2 -- " :"
  if decide (Rt.len args > 1) then
    let t11 ← Rt.idx args 0
    let t12 ← Rt.idx args 1
    args := fields t11 ++ [t12]
  else
    let t13 ← Rt.idx args 0
    args := fields t13
  argsK ext args line

def sourceK (ext : UnicodeExt) (s : Bytes) (line : Gen.Line) : Rt.M (Option Gen.Line) := do
  let mut s := s
  let mut line := line
  if s == [] then -- ""
    return none
  let t8 ← Rt.idx s 0
  if t8 == 58 then -- ':'
    let mut idx : Int := Rt.index s [32] -- " "
    if idx != -1 then
      let t9 ← Rt.slice s 1 idx
      let t10 ← Rt.sliceFrom s (idx + 1)
      line := { line with Src := t9 }
      s := t10
    else
      return none
    line := { line with Host := line.Src }
    let mut (n, i, h, ok) ← parseUserHost line.Src
    if ok then
      line := { line with Nick := n }
      line := { line with Ident := i }
      line := { line with Host := h }
  restK ext s line

def tagBodyK (tag : Bytes) (line : Gen.Line) : Rt.M (ForInStep Gen.Line) := do
  let mut line := line
  if tag == [] then -- ""
    return ForInStep.yield line
  let mut pair : List Bytes := Rt.splitN (Rt.replace tagsReplacer tag) [61] 2 -- "="
  if decide (Rt.len pair < 2) then
    let t4 ← Rt.mapSet line.Tags tag [] -- ""
    line := { line with Tags := t4 }
  else
    let t5 ← Rt.idx pair 0
    let t6 ← Rt.idx pair 1
    let t7 ← Rt.mapSet line.Tags t5 t6
    line := { line with Tags := t7 }
  return ForInStep.yield line

def parseLineK (ext : UnicodeExt) (s : Bytes) : Rt.M (Option Gen.Line) := do
  let mut s := s
  let mut line : Gen.Line := { Raw := s }
  if s == [] then -- ""
    return none
  let t1 ← Rt.idx s 0
  if t1 == 64 then -- '@'
    let mut rawTags : Bytes := []
    line := { line with Tags := some [] }
    let mut idx : Int := Rt.index s [32] -- " "
    if idx != -1 then
      let t2 ← Rt.slice s 1 idx
      let t3 ← Rt.sliceFrom s (idx + 1)
      rawTags := t2
      s := t3
    else
      return none
    line ← forIn (Rt.split rawTags [59]) line (fun tag l => tagBodyK tag l)
  sourceK ext s line

theorem ParseLine_eq_K (ext : UnicodeExt) (s : Bytes) : Gen.ParseLine ext s = parseLineK ext s := rfl

theorem parseUserHost_eq (uh : Bytes) :
    Gen.parseUserHost uh = .ok (match Go.parseUserHost uh with
      | some (n, i, h) => (n, i, h, true)
      | none => ([], [], [], false)) := by
  unfold Gen.parseUserHost Go.parseUserHost
  simp only [rt_index_single]
  rcases hn : indexByte (trimSpace uh) 33 with _ | nidx <;> rcases hu : indexByte (trimSpace uh) 64 with _ | uidx
  · simp
  · simp
  · simp
  · by_cases hlt : uidx < nidx
    · simp [hlt]
    · have hne := indexByte_ne _ _ _ _ _ hn hu (by decide)
      have hu1 := indexByte_lt _ _ _ hu
      have e1 : ((nidx : Int) + 1) = ((nidx + 1 : Nat) : Int) := by omega
      have e2 : ((uidx : Int) + 1) = ((uidx + 1 : Nat) : Int) := by omega
      have c1 : ((uidx : Int) == -1) = false := by simp
      have c2 : ((nidx : Int) == -1) = false := by simp
      have c3 : decide ((uidx : Int) < (nidx : Int)) = false := by simp; omega
      simp only [c1, c2, c3, e1, e2, sliceTo_nat (trimSpace uh) nidx (by omega), slice_nat (trimSpace uh) (nidx + 1) uidx (by omega) (by omega),
        sliceFrom_nat (trimSpace uh) (uidx + 1) (by omega), hlt]
      simp

theorem ctcpK_eq (ext : UnicodeExt) (line : Gen.Line) :
    (ctcpK ext line).map (Option.map toModel) = .ok (some (ctcpRewrite ext (toModel line))) := by
  obtain ⟨tags, nick, ident, host, src, cmd, raw, args⟩ := line
  unfold ctcpK ctcpRewrite ctcpCmdArgs toModel
  simp only [PRIVMSG_eq, NOTICE_eq, ACTION_eq, CTCP_eq, CTCPREPLY_eq]
  by_cases h1 : (cmd == Go.PRIVMSG || cmd == Go.NOTICE) = true
  · simp only [h1]
    rcases args with _ | ⟨a0, _ | ⟨a1, more⟩⟩
    -- fewer than two arguments, and below no PRIVMSG or NOTICE: every flag is false by evaluation (`simp` is slow here)
    · rfl
    · rfl
    · have hlen : decide (Rt.len (a0 :: a1 :: more) > 1) = true := by simp [Rt.len]; omega
      simp only [hlen, Bool.and_true, if_true, idx_cons_one, ok_bind, pure_eq_ok]
      by_cases h2 : a1.length > 2
      · have h2' : decide (Rt.len a1 > 2) = true := by simp [Rt.len]; omega
        by_cases h3 : hasPrefix a1 [1] = true
        · by_cases h4 : hasSuffix a1 [1] = true
          · simp only [h2', h2, h3, h4, rt_splitN2, rt_trim_single]
            obtain ⟨t0, o, hc⟩ : ∃ t0 o, cut (trimByte 1 a1) [32] = (t0, o) := ⟨_, _, rfl⟩
            rcases o with _ | t
            · have hl : decide (Rt.len [t0] > 1) = false := by simp [Rt.len]
              simp only [hc, hl, idx_cons_zero, ok_bind, Bool.false_eq_true, if_false]
              cases (toUpper ext t0 == Go.ACTION && cmd == Go.PRIVMSG) <;> cases (cmd == Go.PRIVMSG) <;> rfl
            · have hl : decide (Rt.len [t0, t] > 1) = true := by simp [Rt.len]
              simp only [hc, hl, idx_cons_zero, idx_cons_one, setIdx_cons_one, ok_bind, if_true]
              cases (toUpper ext t0 == Go.ACTION && cmd == Go.PRIVMSG) <;> cases (cmd == Go.PRIVMSG) <;> rfl
          · simp [h2', h2, h3, h4]
        · simp [h2', h2, h3]
      · have h2' : decide (Rt.len a1 > 2) = false := by simp [Rt.len]; omega
        simp [h2', h2]
  · rw [Bool.not_eq_true] at h1
    simp only [h1]
    rfl

theorem argsK_eq (ext : UnicodeExt) (args : List Bytes) (line : Gen.Line) (hargs : line.Args = []) :
    (argsK ext args line).map (Option.map toModel) = .ok (match args with
      | [] => none
      | c :: rest => some (ctcpRewrite ext { toModel line with cmd := toUpper ext c, args := rest })) := by
  unfold argsK
  rcases args with _ | ⟨c, _ | ⟨d, rest⟩⟩
  · rfl
  · have hl1 : decide (Rt.len [c] > 1) = false := by simp [Rt.len]
    have hl0 : (Rt.len [c] == 0) = false := by simp [Rt.len]
    simp only [hl0, hl1, idx_cons_zero, ok_bind, hargs]
    exact ctcpK_eq ext _
  · have hl1 : decide (Rt.len (c :: d :: rest) > 1) = true := by simp [Rt.len]; omega
    have hl0 : (Rt.len (c :: d :: rest) == 0) = false := by simp [Rt.len]; omega
    simp only [hl0, hl1, idx_cons_zero, ok_bind, sliceFrom_cons_one]
    exact ctcpK_eq ext _

theorem restK_eq (ext : UnicodeExt) (s : Bytes) (line : Gen.Line) (hargs : line.Args = []) :
    (restK ext s line).map (Option.map toModel) = .ok (parseRest ext (toModel line) s) := by
  unfold restK parseRest restArgs
  simp only [rt_splitN2]
  obtain ⟨a, o, hc⟩ : ∃ a o, cut s [32, 58] = (a, o) := ⟨_, _, rfl⟩
  rcases o with _ | t
  · have hl : decide (Rt.len [a] > 1) = false := by simp [Rt.len]
    simp only [hc, hl, idx_cons_zero, ok_bind]
    exact argsK_eq ext _ line hargs
  · have hl : decide (Rt.len [a, t] > 1) = true := by simp [Rt.len]
    simp only [hc, hl, idx_cons_zero, idx_cons_one, ok_bind]
    exact argsK_eq ext _ line hargs

theorem sourceK_eq (ext : UnicodeExt) (s : Bytes) (line : Gen.Line) (hargs : line.Args = []) :
    (sourceK ext s line).map (Option.map toModel) = .ok (parseSource ext (toModel line) s) := by
  rcases s with _ | ⟨x, s⟩
  · rfl
  rw [parseSource_cons, sourceK]
  have hne : ((x :: s) == []) = false := by simp
  simp only [hne, idx_cons_zero, ok_bind, Bool.false_eq_true, if_false]
  by_cases hx : (x == 58) = true
  · simp only [hx, if_true, rt_index_single]
    rcases hi : indexByte (x :: s) 32 with _ | i
    · rfl
    · obtain ⟨h1, h2⟩ := indexByte_cons_bounds x 32 s i (by rintro rfl; simp at hx) hi
      obtain ⟨e1, e2⟩ := slices_at (x :: s) i h1 h2
      have c1 : ((i : Int) != -1) = true := by simp
      simp only [c1, if_true, e1, e2, ok_bind, parseUserHost_eq, withSource]
      rcases Go.parseUserHost (List.drop 1 (List.take i (x :: s))) with _ | ⟨n, id, h⟩
      · exact restK_eq ext _ _ hargs
      · exact restK_eq ext _ _ hargs
  · simp only [hx, Bool.false_eq_true, if_false]
    exact restK_eq ext _ _ hargs

theorem tagBodyK_eq (tag : Bytes) (line : Gen.Line) (m : List (Bytes × Bytes)) (hm : line.Tags = some m) :
    tagBodyK tag line = .ok (ForInStep.yield { line with Tags := some (addTag m tag) }) := by
  obtain ⟨tags, nick, ident, host, src, cmd, raw, args⟩ := line
  simp only at hm
  subst hm
  unfold tagBodyK addTag
  cases tag with
  | nil => rfl
  | cons b tag =>
    have hne : ((b :: tag) == []) = false := by simp
    simp only [hne, rt_replace_tags, rt_splitN2, List.isEmpty_cons, Bool.false_eq_true, if_false]
    rcases hc : cut (unescapeTag (b :: tag)) [61] with ⟨a, _ | v⟩
    · have hl : decide (Rt.len [a] < 2) = true := by simp [Rt.len]
      simp only [hl, if_true, Rt.mapSet, rt_mapInsert_eq, ok_bind, pure_eq_ok]
    · have hl : decide (Rt.len [a, v] < 2) = false := by simp [Rt.len]
      simp only [hl, Bool.false_eq_true, if_false, idx_cons_zero, idx_cons_one, Rt.mapSet, rt_mapInsert_eq, ok_bind, pure_eq_ok]

theorem tagLoop_eq (l : List Bytes) (line : Gen.Line) (m : List (Bytes × Bytes)) (hm : line.Tags = some m) :
    forIn l line (fun tag l => tagBodyK tag l) = (.ok { line with Tags := some (l.foldl addTag m) } : Rt.M Gen.Line) := by
  induction l generalizing line m with
  | nil => simp [← hm]
  | cons tag l ih =>
    rw [List.forIn_cons, tagBodyK_eq tag line m hm]
    simp only [ok_bind]
    rw [ih _ (addTag m tag) rfl]
    rfl

theorem parseLineK_eq (ext : UnicodeExt) (s : Bytes) :
    (parseLineK ext s).map (Option.map toModel) = .ok (Go.parseLine ext s) := by
  rcases s with _ | ⟨x, s⟩
  · rfl
  rw [parseLine_cons, parseLineK]
  have hne : ((x :: s) == []) = false := by simp
  simp only [hne, idx_cons_zero, ok_bind, Bool.false_eq_true, if_false]
  by_cases hx : (x == 64) = true
  · simp only [hx, if_true, rt_index_single]
    rcases hi : indexByte (x :: s) 32 with _ | i
    · rfl
    · obtain ⟨h1, h2⟩ := indexByte_cons_bounds x 32 s i (by rintro rfl; simp at hx) hi
      obtain ⟨e1, e2⟩ := slices_at (x :: s) i h1 h2
      have c1 : ((i : Int) != -1) = true := by simp
      simp only [c1, if_true, e1, e2, ok_bind, rt_split_single]
      rw [tagLoop_eq _ _ [] rfl]
      exact sourceK_eq ext _ _ rfl
  · simp only [hx, Bool.false_eq_true, if_false]
    exact sourceK_eq ext _ _ rfl

end Helpers

/-- [C01,C02] `parseUserHost` as generated from line.go never panics and is the model's -/
theorem gen_parseUserHost (uh : Bytes) :
    Gen.parseUserHost uh = .ok (match Go.parseUserHost uh with
      | some (n, i, h) => (n, i, h, true)
      | none => ([], [], [], false)) :=
  parseUserHost_eq uh

/-- [C01,C02] `ParseLine` as generated from line.go never panics and is the model's, for every byte string and every behaviour of
ToUpper on non-ASCII input -/
theorem gen_ParseLine (ext : UnicodeExt) (s : Bytes) :
    (Gen.ParseLine ext s).map (Option.map toModel) = .ok (Go.parseLine ext s) := by
  rw [ParseLine_eq_K]
  exact parseLineK_eq ext s

/-- [C01,C02] C02's first clause about the code in the repository: the parser generated from line.go reaches no index, slice or
nil-map panic -/
theorem gen_ParseLine_never_panics (ext : UnicodeExt) (s : Bytes) : ∃ r, Gen.ParseLine ext s = .ok r := by
  have h := gen_ParseLine ext s
  cases hr : Gen.ParseLine ext s with
  | ok r => exact ⟨r, rfl⟩
  | error e => rw [hr] at h; simp [Except.map] at h

/-- [C01,C02] the accessors generated from line.go never panic on what the generated parser returns (nor on any other line) -/
theorem gen_accessors_never_panic (l : Gen.Line) :
    (∃ t, Gen.Line_Text l = .ok t) ∧ (∃ p, Gen.Line_Public l = .ok p) ∧ (∃ t, Gen.Line_Target l = .ok t) :=
  ⟨⟨_, gen_Line_Text l⟩, ⟨_, gen_Line_Public l⟩, ⟨_, gen_Line_Target l⟩⟩

end GenCheck
