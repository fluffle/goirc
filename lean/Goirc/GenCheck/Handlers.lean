import Goirc.GenCheck
import Goirc.GenCheck.Commands
import Goirc.Model.Client
/-!
# Generated = model: the simple built-in handlers of client/handlers.go and `Line.argslen`
The client model (`Goirc/Model/Client.lean`) gives a handler as `Client → Line → HR` (new client, queued lines, `panicked`).
The generated handler threads the generated connection state and returns `.error` where Go panics. `toClient` reads a model
client off a generated state (the configuration fields the handlers use; `cfg.Me` is never nil in the generated code, which is
the convention go2lean states in its header). `agrees` says: the generated handler fails exactly when the model handler
panics, and otherwise queues exactly the model's lines and changes nothing else.
-/
namespace GenCheck
open Go Go.Client ParseLemmas

def toClient (ext : UnicodeExt) (newNick : Bytes → Bytes) (conn : Gen.Conn) : Client :=
  { cfg := { meNil := false, meNick := conn.cfg.Me.Nick, meIdent := conn.cfg.Me.Ident, meHost := conn.cfg.Me.Host, meName := conn.cfg.Me.Name,
             pass := conn.cfg.Pass, capNeg := conn.cfg.EnableCapabilityNegotiation, version := conn.cfg.Version,
             cmd := ⟨conn.cfg.SplitLen, conn.cfg.QuitMessage⟩ },
    newNick := newNick, ext := ext }

def agrees (conn : Gen.Conn) (got : Rt.M Gen.Conn) (want : HR) : Prop :=
  match got with
  | .ok c' => want.panicked = false ∧ c' = { conn with out := conn.out ++ want.out }
  | .error _ => want.panicked = true

theorem C_VERSION : Go.Client.VERSION = Gen.VERSION := by decide +kernel
theorem C_PING : Go.Client.PINGv = Gen.PING := by decide +kernel
theorem PING_ne_VERSION : ¬ Gen.PING = Gen.VERSION := by decide
theorem C_CAP_LS : Go.Client.CAP_LS = Gen.CAP_LS := by decide +kernel
theorem C_CAP_END : Go.Client.CAP_END = Gen.CAP_END := by decide +kernel

theorem toClient_cmd (ext : UnicodeExt) (nn : Bytes → Bytes) (conn : Gen.Conn) :
    (toClient ext nn conn).cfg.cmd = toCfg conn.cfg := rfl

theorem emit_toClient (ext : UnicodeExt) (nn : Bytes → Bytes) (conn : Gen.Conn) (c : Cmd) :
    emit (toClient ext nn conn) c = exec ext (toCfg conn.cfg) c := rfl

theorem agrees_queued (ext : UnicodeExt) (conn : Gen.Conn) (c : Cmd) (cl : Client) :
    agrees conn (.ok (queued ext conn c)) { c := cl, out := exec ext (toCfg conn.cfg) c } := by
  simp [agrees, queued]

/-- [C02,C16] `Line.argslen` as generated from line.go -/
theorem gen_Line_argslen (l : Gen.Line) (minlen : Int) : Gen.Line_argslen l minlen = .ok (decide ((l.Args.length : Int) > minlen)) := by
  simp only [Gen.Line_argslen, Rt.len]
  by_cases h : (l.Args.length : Int) ≤ minlen
  · have h' : ¬ ((l.Args.length : Int) > minlen) := by omega
    simp [h, h']
  · have h' : (l.Args.length : Int) > minlen := by omega
    simp [h, h']

/-- [C02,C09,C18] panics exactly on a PING without parameters, otherwise queues `PONG :<first parameter>` -/
theorem gen_Conn_h_PING (ext : UnicodeExt) (nn : Bytes → Bytes) (conn : Gen.Conn) (l : Gen.Line) :
    agrees conn (Gen.Conn_h_PING conn l) (h_PING (toClient ext nn conn) (toModel l)) := by
  simp only [Gen.Conn_h_PING, h_PING, arg, toModel, idx0]
  cases h : l.Args[0]? with
  | none => simp [agrees, bind, Except.bind]
  | some a =>
    simp only [bind, Except.bind, gen_Conn_Pong ext, emit_toClient]
    exact agrees_queued ext conn _ _

/-- [C18,C20] queues CAP LS (if negotiating), PASS (if a password is set), NICK, USER, in that order -/
theorem gen_Conn_h_REGISTER (ext : UnicodeExt) (nn : Bytes → Bytes) (conn : Gen.Conn) (l : Gen.Line) :
    agrees conn (Gen.Conn_h_REGISTER conn l) (h_REGISTER (toClient ext nn conn) (toModel l)) := by
  simp only [Gen.Conn_h_REGISTER, h_REGISTER, emit_toClient, C_CAP_LS]
  simp only [toClient]
  by_cases hc : conn.cfg.EnableCapabilityNegotiation = true <;> by_cases hp : conn.cfg.Pass = [] <;>
    simp [hc, hp, agrees, bind, Except.bind, gen_Conn_Cap ext, gen_Conn_Pass ext, gen_Conn_Nick ext,
      gen_Conn_User ext, queued, List.append_assoc]

/-- [C02,C19] panics exactly on a line with fewer than two parameters, queues nothing -/
theorem gen_Conn_h_410 (ext : UnicodeExt) (nn : Bytes → Bytes) (conn : Gen.Conn) (l : Gen.Line) :
    agrees conn (Gen.Conn_h_410 conn l) (h_410 (toClient ext nn conn) (toModel l)) := by
  simp only [Gen.Conn_h_410, h_410, arg, toModel, idx1]
  cases h : l.Args[1]? with
  | none => simp [agrees, bind, Except.bind]
  | some a => simp [agrees, bind, Except.bind, pure, Except.pure]

/-- [C19] ends the negotiation -/
theorem gen_Conn_h_903 (ext : UnicodeExt) (nn : Bytes → Bytes) (conn : Gen.Conn) (l : Gen.Line) :
    agrees conn (Gen.Conn_h_903 conn l) (h_903 (toClient ext nn conn) (toModel l)) := by
  simp only [Gen.Conn_h_903, h_903, gen_Conn_Cap ext, emit_toClient, C_CAP_END]
  exact agrees_queued ext conn _ _

/-- [C19] CAP END, and the client - the capabilities it holds included - is left as it was -/
theorem gen_Conn_handleCapNak (ext : UnicodeExt) (nn : Bytes → Bytes) (conn : Gen.Conn) (caps : List Bytes) :
    agrees conn (Gen.Conn_handleCapNak conn caps) (handleCapNak (toClient ext nn conn) caps) := by
  simp only [Gen.Conn_handleCapNak, handleCapNak, gen_Conn_Cap ext, emit_toClient, C_CAP_END]
  exact agrees_queued ext conn _ _

/-- [C19] ends the negotiation -/
theorem gen_Conn_h_904 (ext : UnicodeExt) (nn : Bytes → Bytes) (conn : Gen.Conn) (l : Gen.Line) :
    agrees conn (Gen.Conn_h_904 conn l) (h_904 (toClient ext nn conn) (toModel l)) := by
  simp only [Gen.Conn_h_904, h_904, gen_Conn_Cap ext, emit_toClient, C_CAP_END]
  exact agrees_queued ext conn _ _

/-- [C02,C19] panics exactly on a line with fewer than two parameters, otherwise ends the negotiation -/
theorem gen_Conn_h_908 (ext : UnicodeExt) (nn : Bytes → Bytes) (conn : Gen.Conn) (l : Gen.Line) :
    agrees conn (Gen.Conn_h_908 conn l) (h_908 (toClient ext nn conn) (toModel l)) := by
  simp only [Gen.Conn_h_908, h_908, arg, toModel, idx1]
  cases h : l.Args[1]? with
  | none => simp [agrees, bind, Except.bind]
  | some a =>
    simp only [bind, Except.bind, gen_Conn_Cap ext, emit_toClient, C_CAP_END]
    exact agrees_queued ext conn _ _

/-- [C02,C08,C11] VERSION is answered with the configured version, PING with its third parameter (when there is one), anything else
with nothing; panics exactly on a CTCP event without parameters -/
theorem gen_Conn_h_CTCP (ext : UnicodeExt) (nn : Bytes → Bytes) (conn : Gen.Conn) (l : Gen.Line) :
    agrees conn (Gen.Conn_h_CTCP ext conn l) (h_CTCP (toClient ext nn conn) (toModel l)) := by
  simp only [Gen.Conn_h_CTCP, h_CTCP, arg, idx0, idx2, gen_Line_argslen, emit_toClient, C_VERSION, C_PING]
  simp only [toModel]
  cases h0 : l.Args[0]? with
  | none => simp [agrees, bind, Except.bind]
  | some a0 =>
    by_cases hv : a0 = Gen.VERSION
    · simp [hv, agrees, bind, Except.bind, pure, Except.pure, gen_Conn_CtcpReply ext, queued, toClient]
    · by_cases hpg : a0 = Gen.PING
      · subst hpg
        cases h2 : l.Args[2]? with
        | none =>
          have hl : ¬ ((l.Args.length : Int) > 2) := by
            have := List.getElem?_eq_none_iff.mp h2; omega
          simp [PING_ne_VERSION, hl, agrees, bind, Except.bind, pure, Except.pure]
        | some a2 =>
          have hl : (l.Args.length : Int) > 2 := by
            have := (List.getElem?_eq_some_iff.mp h2).1; omega
          simp [PING_ne_VERSION, hl, agrees, bind, Except.bind, pure, Except.pure, gen_Conn_CtcpReply ext, queued]
      · simp [hv, hpg, agrees, bind, Except.bind, pure, Except.pure]

end GenCheck
