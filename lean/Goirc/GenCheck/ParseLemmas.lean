import Goirc.GenCheck
import Goirc.Proofs.Strings
/-!
# Bridge lemmas between the runtime prelude `Go.Rt` and the model's primitives

What each checked operation of `Go.Rt` returns under a bound stated in `Nat`, and the `Rt` versions of the `strings`
functions with a one-byte separator in terms of the model's `indexByte`, `splitByte`, `cut`, `trimByte`, `unescapeTag`.
-/
namespace GenCheck.ParseLemmas
open Go

@[simp] theorem ok_bind {α β : Type} (a : α) (f : α → Rt.M β) : (Except.ok a : Rt.M α) >>= f = f a := rfl
@[simp] theorem pure_eq_ok {α : Type} (a : α) : (pure a : Rt.M α) = Except.ok a := rfl

theorem idx_nat {α : Type} (xs : List α) (i : Nat) :
    Rt.idx xs (i : Int) = match xs[i]? with | some v => .ok v | none => .error (.index i xs.length) := by
  simp only [Rt.idx, Int.natCast_nonneg, if_true, Int.toNat_natCast]
  cases xs[i]? <;> rfl

theorem idx0 {α : Type} (xs : List α) :
    Rt.idx xs 0 = match xs[0]? with | some v => .ok v | none => .error (.index 0 xs.length) := idx_nat xs 0
theorem idx1 {α : Type} (xs : List α) :
    Rt.idx xs 1 = match xs[1]? with | some v => .ok v | none => .error (.index 1 xs.length) := idx_nat xs 1
theorem idx2 {α : Type} (xs : List α) :
    Rt.idx xs 2 = match xs[2]? with | some v => .ok v | none => .error (.index 2 xs.length) := idx_nat xs 2

theorem idx_ok {α : Type} (s : List α) (i : Nat) (h : i < s.length) : Rt.idx s (i : Int) = .ok s[i] := by
  rw [idx_nat, List.getElem?_eq_getElem h]

@[simp] theorem idx_cons_zero {α : Type} (a : α) (s : List α) : Rt.idx (a :: s) 0 = .ok a := idx0 _

@[simp] theorem idx_cons_one {α : Type} (a b : α) (s : List α) : Rt.idx (a :: b :: s) 1 = .ok b := idx1 _

/-- `s[len(s)-1]` -/
theorem idx_last {α : Type} (l : List α) (d : α) (h : l ≠ []) :
    Rt.idx l (Rt.len l - 1) = .ok (l.getLast?.getD d) := by
  have hpos : 0 < l.length := List.length_pos_iff.mpr h
  have e : Rt.len l - 1 = ((l.length - 1 : Nat) : Int) := by simp only [Rt.len]; omega
  rw [e, idx_ok l _ (by omega), List.getLast?_eq_getElem?, List.getElem?_eq_getElem (by omega)]
  rfl

theorem slice_nat {α : Type} (s : List α) (i j : Nat) (h1 : i ≤ j) (h2 : j ≤ s.length) :
    Rt.slice s (i : Int) (j : Int) = .ok ((s.take j).drop i) := by
  unfold Rt.slice
  rw [if_pos ⟨by omega, by omega, by omega⟩]
  simp

theorem sliceFrom_nat {α : Type} (s : List α) (i : Nat) (h : i ≤ s.length) :
    Rt.sliceFrom s (i : Int) = .ok (s.drop i) := by
  unfold Rt.sliceFrom
  rw [if_pos ⟨by omega, by omega⟩]
  simp

/-- `s[1:i]` and `s[i+1:]` around an index that `strings.Index` returned -/
theorem slices_at {α : Type} (s : List α) (i : Nat) (h1 : 1 ≤ i) (h2 : i < s.length) :
    Rt.slice s 1 (i : Int) = .ok ((s.take i).drop 1) ∧ Rt.sliceFrom s ((i : Int) + 1) = .ok (s.drop (i + 1)) :=
  ⟨slice_nat s 1 i h1 (Nat.le_of_lt h2), sliceFrom_nat s (i + 1) h2⟩

theorem sliceTo_nat {α : Type} (s : List α) (j : Nat) (h : j ≤ s.length) :
    Rt.sliceTo s (j : Int) = .ok (s.take j) := by
  unfold Rt.sliceTo
  rw [if_pos ⟨by omega, by omega⟩]
  simp

theorem rt_index_single (s : Bytes) (c : UInt8) :
    Rt.index s [c] = match indexByte s c with | some i => (i : Int) | none => -1 := by
  unfold Rt.index
  rw [index_single]
  cases indexByte s c <;> rfl

theorem splitFuel_cons_single (k : Nat) (x c : UInt8) (s : Bytes) :
    Rt.splitFuel (k + 1) (x :: s) [c] =
      if x == c then [] :: Rt.splitFuel k s [c] else (Rt.splitFuel (k + 1) s [c]).modifyHead (x :: ·) := by
  simp only [Rt.splitFuel]
  rw [cut_cons_single]
  by_cases h : (x == c) = true
  · simp [h]
  · simp only [h]
    rcases cut s [c] with ⟨a, _ | b⟩ <;> rfl

/-- `Rt.splitFuel` and core's `splitOnP` (which `splitByte` is) obey the same recursion -/
theorem splitFuel_single (c : UInt8) (s : Bytes) (k : Nat) (h : s.length ≤ k) :
    Rt.splitFuel k s [c] = splitByte c [] s := by
  rw [splitByte_nil]
  induction s generalizing k with
  | nil => cases k <;> simp [Rt.splitFuel, cut_nil_single]
  | cons x s ih =>
    cases k with
    | zero => simp at h
    | succ k =>
      simp only [List.length_cons] at h
      rw [splitFuel_cons_single, List.splitOnP_cons_eq_if_modifyHead, ih k (by omega), ih (k + 1) (by omega)]

theorem rt_split_single (s : Bytes) (c : UInt8) : Rt.split s [c] = splitByte c [] s :=
  splitFuel_single c s _ (Nat.le_refl _)

theorem rt_splitN2 (s sep : Bytes) :
    Rt.splitN s sep 2 = match cut s sep with
      | (a, some b) => [a, b]
      | (a, none) => [a] := by
  show Rt.splitFuel 1 s sep = _
  unfold Rt.splitFuel
  rcases cut s sep with ⟨a, _ | b⟩ <;> simp [Rt.splitFuel]

theorem rt_trim_single (s : Bytes) (c : UInt8) : Rt.trim s [c] = trimByte c s := by
  unfold Rt.trim trimByte
  have : (fun b : UInt8 => [c].contains b) = (fun b => b == c) := by
    funext b
    cases h : b == c <;> simp_all
  rw [this]

theorem replaceFind_tags (x y : UInt8) (xs : Bytes) :
    Rt.replaceFind Gen.tagsReplacer (x :: y :: xs) =
      if x == 92 then (match unesc1 y with | some c => some ([92, y], [c]) | none => none) else none := by
  by_cases hx : x = 92
  · subst hx
    fun_cases unesc1 y <;> simp_all [Rt.replaceFind, Gen.tagsReplacer, hasPrefix]
  · simp [Rt.replaceFind, Gen.tagsReplacer, hasPrefix, hx]

theorem replaceFind_tags_single (x : UInt8) : Rt.replaceFind Gen.tagsReplacer [x] = none := by
  simp [Rt.replaceFind, Gen.tagsReplacer, hasPrefix]

theorem replaceAux_nil (k : Nat) : Rt.replaceAux Gen.tagsReplacer k [] = [] := by cases k <;> rfl

theorem replaceAux_tags (k : Nat) (s : Bytes) (h : s.length ≤ k) :
    Rt.replaceAux Gen.tagsReplacer k s = unescapeTag s := by
  induction k using Nat.strongRecOn generalizing s with
  | _ k ih =>
    match s, k with
    | [], 0 => rfl
    | [], _ + 1 => rfl
    | _ :: _, 0 => simp at h
    | [x], k + 1 =>
      simp only [Rt.replaceAux, replaceFind_tags_single, replaceAux_nil, unescapeTag]
    | x :: y :: xs, k + 1 =>
      simp only [List.length_cons] at h
      have ih1 := ih k (by omega) (y :: xs) (by simp; omega)
      have ih2 := ih k (by omega) xs (by omega)
      simp only [Rt.replaceAux, replaceFind_tags, unescapeTag]
      by_cases hx : (x == 92) = true
      · simp only [hx, if_true]
        have hx' : x = 92 := by simpa using hx
        subst hx'
        cases hu : unesc1 y with
        | none => simp [ih1]
        | some c => simp [ih2]
      · simp only [hx]
        simp [ih1]

theorem rt_replace_tags (s : Bytes) : Rt.replace Gen.tagsReplacer s = unescapeTag s :=
  replaceAux_tags _ s (Nat.le_refl _)

@[simp] theorem map_ok {α β : Type} (f : α → β) (a : α) : (Except.ok a : Rt.M α).map f = .ok (f a) := rfl

theorem setIdx_cons_one {α : Type} (a b v : α) (s : List α) : Rt.setIdx (a :: b :: s) 1 v = .ok (a :: v :: s) := by
  unfold Rt.setIdx
  rw [if_pos ⟨by omega, by simp only [List.length_cons]; omega⟩]
  rfl

theorem sliceFrom_cons_one {α : Type} (a : α) (s : List α) : Rt.sliceFrom (a :: s) 1 = .ok s := by
  unfold Rt.sliceFrom
  rw [if_pos ⟨by omega, by simp only [List.length_cons]; omega⟩]
  rfl

theorem PRIVMSG_eq : Gen.PRIVMSG = Go.PRIVMSG := by decide +kernel
theorem NOTICE_eq : Gen.NOTICE = Go.NOTICE := by decide +kernel
theorem ACTION_eq : Gen.ACTION = Go.ACTION := by decide +kernel
theorem CTCP_eq : Gen.CTCP = Go.CTCP := by decide +kernel
theorem CTCPREPLY_eq : Gen.CTCPREPLY = Go.CTCPREPLY := by decide +kernel
theorem rt_mapInsert_eq : @Rt.mapInsert = @Go.mapInsert := rfl

end GenCheck.ParseLemmas
