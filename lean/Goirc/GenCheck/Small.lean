import Goirc.GenCheck
import Goirc.GenCheck.ParseLemmas
/-!
# Generated = model: the small functions (`cutNewLines`, `hasPort`, `Text`, `Public`, `Target`)
In every file of this directory the theorems tagged `[Cxx,..]` are the obligations the check audits, for the properties the tag
names; the untagged lemmas in front of each are its helpers. Where a helper quotes a part of a generated function (`public_arm0`,
`public_arm1`, `target_tail`) the quoted `do` block is the text of `Gen/Pure.lean` (generated, not in the repository;
`Gen/Pure.golden` is its committed copy), temporaries `t1 ..` included: the obligation below it unfolds the generated function and
closes with the helper by `exact`, so it fails when the text differs.
-/
namespace GenCheck
open Go ParseLemmas

theorem splitN2_head (c : UInt8) (s : Bytes) :
    Rt.idx (Rt.splitN s [c] 2) 0 = .ok (beforeByte c s) := by
  rw [rt_splitN2, ← cut_single_fst]
  rcases cut s [c] with ⟨a, _ | b⟩ <;> exact idx_cons_zero _ _

/-- [C08,C09,C11,C19] `cutNewLines` as generated from commands.go is the model's -/
theorem gen_cutNewLines (s : Bytes) : Gen.cutNewLines s = .ok (Go.cutNewLines s) := by
  have h1 := splitN2_head 13 s
  have h2 := splitN2_head 10 (beforeByte 13 s)
  simp only [Gen.cutNewLines, h1, h2, bind, Except.bind]
  rfl

/-- Go's `int` reading of an optional index -/
def optInt : Option Nat → Int
  | some i => (i : Int)
  | none => -1

theorem lastIndexFrom_single (c : UInt8) (s : Bytes) (i : Nat) (acc : Option Nat) :
    Rt.lastIndexFrom [c] s i (optInt acc) = optInt (lastIndexByte.go c s i acc) := by
  induction s generalizing i acc with
  | nil => simp [Rt.lastIndexFrom, lastIndexByte.go]
  | cons x s ih =>
    simp only [Rt.lastIndexFrom, lastIndexByte.go, hasPrefix_single]
    rw [← ih]
    by_cases hx : (x == c) = true <;> simp [hx, optInt]

theorem lastIndex_single (c : UInt8) (s : Bytes) :
    Rt.lastIndex s [c] = optInt (lastIndexByte s c) :=
  lastIndexFrom_single c s 0 none

/-- [C18] `hasPort` as generated from connection.go is the Spec's -/
theorem gen_hasPort (s : Bytes) : Gen.hasPort s = .ok (Spec.Register.hasPort s) := by
  simp only [Gen.hasPort, Spec.Register.hasPort, lastIndex_single, pure, Except.pure]
  simp only [optInt]
  rfl

/-- [C01,C02] `Line.Text` as generated from line.go never panics and is the model's accessor -/
theorem gen_Line_Text (l : Gen.Line) : Gen.Line_Text l = .ok (toModel l).text := by
  rcases l with ⟨tags, nick, ident, host, src, cmd, raw, args⟩
  simp only [Gen.Line_Text, toModel, Line.text]
  by_cases h : args = []
  · subst h; simp [Rt.len, pure, Except.pure]
  · have hpos : 0 < args.length := List.length_pos_iff.mpr h
    have : Rt.len args > 0 := by simp only [Rt.len]; omega
    simp only [this, decide_true, if_true, idx_last args [] h, pure, Except.pure]

theorem ok_ite (c : Bool) : (if c = true then (pure true : Rt.M Bool) else pure false) = .ok c := by
  cases c <;> rfl

theorem len_lt_one_nil {α : Type} : decide (Rt.len ([] : List α) < 1) = true := by
  simp [Rt.len]
theorem len_lt_one_cons {α : Type} (x : α) (xs : List α) : decide (Rt.len (x :: xs) < 1) = false :=
  decide_eq_false (by simp only [Rt.len, List.length_cons]; omega)
theorem len_lt_two_nil {α : Type} : decide (Rt.len ([] : List α) < 2) = true := by
  simp [Rt.len]
theorem len_lt_two_one {α : Type} (x : α) : decide (Rt.len [x] < 2) = true := by
  simp [Rt.len]
theorem len_lt_two_cons {α : Type} (x y : α) (xs : List α) : decide (Rt.len (x :: y :: xs) < 2) = false :=
  decide_eq_false (by simp only [Rt.len, List.length_cons]; omega)

/-- the `case PRIVMSG, NOTICE, ACTION` arm of `Public` -/
theorem public_arm0 (args : List Bytes) :
    (do
      let t2 ←
        if decide (Rt.len args < 1) then pure true
        else do
          let t1 ← Rt.idx args 0
          pure (t1 == [])
      if t2 then
        return false
      let t3 ← Rt.idx args 0
      let t4 ← Rt.idx t3 0
      if ((t4 == 35 || t4 == 38) || t4 == 43) || t4 == 33 then
        return true
      return false : Rt.M Bool) =
    .ok (match args with
      | (b :: _) :: _ => isChanPrefix b
      | _ => false) := by
  rcases args with _ | ⟨(_ | ⟨b, a0⟩), rest⟩
  · rfl
  · rfl
  · simp only [len_lt_one_cons, idx_cons_zero, bind, Except.bind, pure, Except.pure]
    exact ok_ite _

/-- the `case CTCP, CTCPREPLY` arm of `Public` -/
theorem public_arm1 (args : List Bytes) :
    (do
      let t6 ←
        if decide (Rt.len args < 2) then pure true
        else do
          let t5 ← Rt.idx args 1
          pure (t5 == [])
      if t6 then
        return false
      let t7 ← Rt.idx args 1
      let t8 ← Rt.idx t7 0
      if ((t8 == 35 || t8 == 38) || t8 == 43) || t8 == 33 then
        return true
      return false : Rt.M Bool) =
    .ok (match args with
      | _ :: (b :: _) :: _ => isChanPrefix b
      | _ => false) := by
  rcases args with _ | ⟨a0, (_ | ⟨(_ | ⟨b, a1⟩), rest⟩)⟩
  · rfl
  · rfl
  · rfl
  · simp only [len_lt_two_cons, idx_cons_one, idx_cons_zero, bind, Except.bind, pure, Except.pure]
    exact ok_ite _

/-- [C01,C02] `Line.Public` as generated from line.go never panics and is the model's accessor -/
theorem gen_Line_Public (l : Gen.Line) : Gen.Line_Public l = .ok (toModel l).public := by
  rcases l with ⟨tags, nick, ident, host, src, cmd, raw, args⟩
  have a0 := public_arm0 args
  have a1 := public_arm1 args
  simp only [Gen.Line_Public, toModel, Line.public, PRIVMSG_eq, NOTICE_eq, ACTION_eq, CTCP_eq, CTCPREPLY_eq]
  by_cases h1 : (cmd == PRIVMSG || cmd == NOTICE || cmd == ACTION) = true
  · simp only [h1, if_true]
    exact a0
  · simp only [h1]
    by_cases h2 : (cmd == CTCP || cmd == CTCPREPLY) = true
    · simp only [h2, if_true]
      exact a1
    · simp only [h2]
      rfl

/-- the code after the `switch` of `Target` -/
theorem target_tail (args : List Bytes) :
    (do
      if decide (Rt.len args > 0) then
        let t4 ← Rt.idx args 0
        return t4
      return [] : Rt.M Bytes) = .ok (args.head?.getD []) := by
  rcases args with _ | ⟨a0, rest⟩
  · rfl
  · have : Rt.len (a0 :: rest) > 0 := by simp only [Rt.len, List.length_cons]; omega
    simp only [this, decide_true, if_true, idx_cons_zero, pure, Except.pure]
    rfl

/-- [C01,C02] `Line.Target` as generated from line.go never panics and is the model's accessor -/
theorem gen_Line_Target (l : Gen.Line) : Gen.Line_Target l = .ok (toModel l).target := by
  rcases l with ⟨tags, nick, ident, host, src, cmd, raw, args⟩
  have hp := gen_Line_Public ⟨tags, nick, ident, host, src, cmd, raw, args⟩
  have ht := target_tail args
  simp only [toModel] at hp
  generalize hq : Line.public _ = q at hp
  simp only [Gen.Line_Target, hp, toModel, Line.target, hq, PRIVMSG_eq, NOTICE_eq, ACTION_eq, CTCP_eq,
    CTCPREPLY_eq, bind, Except.bind]
  by_cases h1 : (cmd == PRIVMSG || cmd == NOTICE || cmd == ACTION) = true
  · simp only [h1, if_true]
    cases q
    · rfl
    · exact ht
  · simp only [h1]
    by_cases h2 : (cmd == CTCP || cmd == CTCPREPLY) = true
    · simp only [h2, if_true]
      cases q
      · rfl
      · simp only [Line.public, h1, h2, if_true] at hq
        rcases args with _ | ⟨a0, (_ | ⟨(_ | ⟨b, a1⟩), rest⟩)⟩
        · simp at hq
        · simp at hq
        · simp at hq
        · simp only [idx_cons_one]
          rfl
    · simp only [h2]
      exact ht

end GenCheck
