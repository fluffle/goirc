import Goirc.GenCheck
import Goirc.GenCheck.Small
import Goirc.GenCheck.Split
/-!
# Generated = model: the command methods of `*Conn` (client/commands.go)
go2lean renders the receiver as an explicit state (`Gen.Conn`: the configuration fields the methods read and the outgoing
queue `out`, a FIFO list); a method returns the new state. Each tagged theorem says: for every state, every argument and every
behaviour of ToUpper on non-ASCII input the method as generated from commands.go returns no panic and appends to the queue exactly
the lines the hand-written command model `Go.exec` produces - the model `Props.C08` (no CR/LF, right verb) and `Props.C11Ext` (one
line per piece) are stated about.
-/
namespace GenCheck
open Go ParseLemmas

def toCfg (c : Gen.Config) : Go.CmdCfg := ⟨c.SplitLen, c.QuitMessage⟩

def queued (ext : UnicodeExt) (conn : Gen.Conn) (c : Go.Cmd) : Gen.Conn :=
  { conn with out := conn.out ++ Go.exec ext (toCfg conn.cfg) c }

theorem raw_ok (conn : Gen.Conn) (l : Bytes) :
    Gen.Conn_Raw conn l = .ok { conn with out := conn.out ++ [Go.cutNewLines l] } := by
  simp only [Gen.Conn_Raw, gen_cutNewLines, bind, Except.bind, pure, Except.pure]

/-- a method that ends in `conn.Raw(l)` unfolds to `Conn_Raw conn l`; `h`: the model hands exactly `l` to `Raw` -/
theorem raw_queued (ext : UnicodeExt) (conn : Gen.Conn) (c : Cmd) (l : Bytes)
    (h : rawArgs ext (toCfg conn.cfg) c = [l]) :
    Gen.Conn_Raw conn l = .ok (queued ext conn c) := by
  rw [raw_ok, queued, exec, h]; rfl

theorem rawLoop (h : Bytes → Bytes) (g : Bytes → Gen.Conn → Rt.M (ForInStep Gen.Conn))
    (hg : ∀ s c, g s c = .ok (.yield { c with out := c.out ++ [h s] }))
    (xs : List Bytes) (conn : Gen.Conn) :
    forIn xs conn g = .ok { conn with out := conn.out ++ xs.map h } := by
  induction xs generalizing conn with
  | nil => simp [pure, Except.pure]
  | cons x xs ih =>
    simp only [List.forIn_cons, hg, bind, Except.bind, ih, List.map_cons]
    simp

/-- `for _, s := range xs { conn.Raw(f s) }`; `h`: the model hands `xs.map f` to `Raw` -/
theorem rawLoop_queued (ext : UnicodeExt) (conn : Gen.Conn) (c : Cmd) (f : Bytes → Bytes) (xs : List Bytes)
    (g : Bytes → Gen.Conn → Rt.M (ForInStep Gen.Conn))
    (hg : ∀ s conn, g s conn = do let conn ← Gen.Conn_Raw conn (f s); pure (ForInStep.yield conn))
    (h : rawArgs ext (toCfg conn.cfg) c = xs.map f) :
    (forIn xs conn g >>= fun c => pure c) = .ok (queued ext conn c) := by
  rw [rawLoop (fun s => cutNewLines (f s)) g (fun s c => by rw [hg, raw_ok]; rfl), queued, exec, h, List.map_map]; rfl

/-- `msg := strings.Join(m, " "); if msg != "" { msg = " :" + msg }` -/
theorem optTrail_eq (m : List Bytes) :
    (if (join [32] m != []) = true then [32, 58] ++ join [32] m else join [32] m) = optTrail m := by
  unfold optTrail SP
  cases join [32] m <;> rfl

theorem V_PASS : V.PASS = Gen.PASS := by decide +kernel
theorem V_NICK : V.NICK = Gen.NICK := by decide +kernel
theorem V_USER : V.USER = Gen.USER := by decide +kernel
theorem V_JOIN : V.JOIN = Gen.JOIN := by decide +kernel
theorem V_PART : V.PART = Gen.PART := by decide +kernel
theorem V_KICK : V.KICK = Gen.KICK := by decide +kernel
theorem V_QUIT : V.QUIT = Gen.QUIT := by decide +kernel
theorem V_WHOIS : V.WHOIS = Gen.WHOIS := by decide +kernel
theorem V_WHO : V.WHO = Gen.WHO := by decide +kernel
theorem V_PRIVMSG : V.PRIVMSG = Gen.PRIVMSG := by decide +kernel
theorem V_NOTICE : V.NOTICE = Gen.NOTICE := by decide +kernel
theorem V_VERSION : V.VERSION = Gen.VERSION := by decide +kernel
theorem V_ACTION : V.ACTION = Gen.ACTION := by decide +kernel
theorem V_TOPIC : V.TOPIC = Gen.TOPIC := by decide +kernel
theorem V_MODE : V.MODE = Gen.MODE := by decide +kernel
theorem V_AWAY : V.AWAY = Gen.AWAY := by decide +kernel
theorem V_INVITE : V.INVITE = Gen.INVITE := by decide +kernel
theorem V_OPER : V.OPER = Gen.OPER := by decide +kernel
theorem V_VHOST : V.VHOST = Gen.VHOST := by decide +kernel
theorem V_PING : V.PING = Gen.PING := by decide +kernel
theorem V_PONG : V.PONG = Gen.PONG := by decide +kernel
theorem V_CAP : V.CAP = Gen.CAP := by decide +kernel
theorem V_AUTHENTICATE : V.AUTHENTICATE = Gen.AUTHENTICATE := by decide +kernel
theorem lit_user : lit " 12 * :" = [32, 49, 50, 32, 42, 32, 58] := by decide +kernel

/-! Each proof names the string the method hands to `Raw` and checks, by unfolding, that it is the model's. -/

/-- [C08,C09] -/
theorem gen_Conn_Raw (ext : UnicodeExt) (conn : Gen.Conn) (l : Bytes) :
    Gen.Conn_Raw conn l = .ok (queued ext conn (.raw l)) :=
  raw_queued ext conn (.raw l) l rfl

/-- [C08,C18] -/
theorem gen_Conn_Pass (ext : UnicodeExt) (conn : Gen.Conn) (p : Bytes) :
    Gen.Conn_Pass conn p = .ok (queued ext conn (.pass p)) :=
  raw_queued ext conn (.pass p) _ (by rw [rawArgs, V_PASS]; rfl)

/-- [C08,C17,C18] -/
theorem gen_Conn_Nick (ext : UnicodeExt) (conn : Gen.Conn) (n : Bytes) :
    Gen.Conn_Nick conn n = .ok (queued ext conn (.nick n)) :=
  raw_queued ext conn (.nick n) _ (by rw [rawArgs, V_NICK]; rfl)

/-- [C08,C18] -/
theorem gen_Conn_User (ext : UnicodeExt) (conn : Gen.Conn) (i n : Bytes) :
    Gen.Conn_User conn i n = .ok (queued ext conn (.user i n)) :=
  raw_queued ext conn (.user i n) _ (by rw [rawArgs, V_USER, lit_user]; rfl)

/-- [C08] -/
theorem gen_Conn_Join (ext : UnicodeExt) (conn : Gen.Conn) (ch : Bytes) (key : List Bytes) :
    Gen.Conn_Join conn ch key = .ok (queued ext conn (.join ch key)) := by
  cases key with
  | nil => exact raw_queued ext conn (.join ch []) _ (by rw [rawArgs, V_JOIN]; rfl)
  | cons k ks =>
    have hlen : decide (Rt.len (k :: ks) > 0) = true := decide_eq_true (by simp only [Rt.len, List.length_cons]; omega)
    simp only [Gen.Conn_Join, hlen, if_true, idx_cons_zero, ok_bind]
    exact raw_queued ext conn (.join ch (k :: ks)) _ (by rw [rawArgs, V_JOIN]; rfl)

/-- [C08] -/
theorem gen_Conn_Part (ext : UnicodeExt) (conn : Gen.Conn) (ch : Bytes) (m : List Bytes) :
    Gen.Conn_Part conn ch m = .ok (queued ext conn (.part ch m)) := by
  have : Gen.Conn_Part conn ch m = Gen.Conn_Raw conn (Gen.PART ++ [32] ++ ch ++ optTrail m) := by
    rw [← optTrail_eq, Gen.Conn_Part]; split <;> rfl
  rw [this]
  exact raw_queued ext conn (.part ch m) _ (by rw [rawArgs, V_PART]; rfl)

/-- [C08] -/
theorem gen_Conn_Kick (ext : UnicodeExt) (conn : Gen.Conn) (ch n : Bytes) (m : List Bytes) :
    Gen.Conn_Kick conn ch n m = .ok (queued ext conn (.kick ch n m)) := by
  have : Gen.Conn_Kick conn ch n m = Gen.Conn_Raw conn (Gen.KICK ++ [32] ++ ch ++ [32] ++ n ++ optTrail m) := by
    rw [← optTrail_eq, Gen.Conn_Kick]; split <;> rfl
  rw [this]
  exact raw_queued ext conn (.kick ch n m) _ (by rw [rawArgs, V_KICK]; rfl)

/-- [C08] -/
theorem gen_Conn_Quit (ext : UnicodeExt) (conn : Gen.Conn) (m : List Bytes) :
    Gen.Conn_Quit conn m = .ok (queued ext conn (.quit m)) := by
  have : Gen.Conn_Quit conn m = Gen.Conn_Raw conn
      (Gen.QUIT ++ [32, 58] ++ (if join [32] m == [] then conn.cfg.QuitMessage else join [32] m)) := by
    rw [Gen.Conn_Quit]; split <;> rfl
  rw [this]
  exact raw_queued ext conn (.quit m) _ (by rw [rawArgs, V_QUIT]; rfl)

/-- [C08] -/
theorem gen_Conn_Whois (ext : UnicodeExt) (conn : Gen.Conn) (n : Bytes) :
    Gen.Conn_Whois conn n = .ok (queued ext conn (.whois n)) :=
  raw_queued ext conn (.whois n) _ (by rw [rawArgs, V_WHOIS]; rfl)

/-- [C08] -/
theorem gen_Conn_Who (ext : UnicodeExt) (conn : Gen.Conn) (n : Bytes) :
    Gen.Conn_Who conn n = .ok (queued ext conn (.who n)) :=
  raw_queued ext conn (.who n) _ (by rw [rawArgs, V_WHO]; rfl)

/-- [C08,C11] -/
theorem gen_Conn_Privmsg (ext : UnicodeExt) (conn : Gen.Conn) (t m : Bytes) :
    Gen.Conn_Privmsg conn t m = .ok (queued ext conn (.privmsg t m)) := by
  rw [Gen.Conn_Privmsg, gen_splitMessage]
  exact rawLoop_queued ext conn (.privmsg t m) _ _ _ (fun _ _ => rfl) (by rw [rawArgs, V_PRIVMSG]; rfl)

/-- [C08,C11] -/
theorem gen_Conn_Notice (ext : UnicodeExt) (conn : Gen.Conn) (t m : Bytes) :
    Gen.Conn_Notice conn t m = .ok (queued ext conn (.notice t m)) := by
  rw [Gen.Conn_Notice, gen_splitMessage]
  exact rawLoop_queued ext conn (.notice t m) _ _ _ (fun _ _ => rfl) (by rw [rawArgs, V_NOTICE]; rfl)

/-- [C08] -/
theorem gen_Conn_Topic (ext : UnicodeExt) (conn : Gen.Conn) (ch : Bytes) (tp : List Bytes) :
    Gen.Conn_Topic conn ch tp = .ok (queued ext conn (.topic ch tp)) := by
  have : Gen.Conn_Topic conn ch tp = Gen.Conn_Raw conn (Gen.TOPIC ++ [32] ++ ch ++ optTrail tp) := by
    rw [← optTrail_eq, Gen.Conn_Topic]; split <;> rfl
  rw [this]
  exact raw_queued ext conn (.topic ch tp) _ (by rw [rawArgs, V_TOPIC]; rfl)

/-- [C08] -/
theorem gen_Conn_Mode (ext : UnicodeExt) (conn : Gen.Conn) (t : Bytes) (ms : List Bytes) :
    Gen.Conn_Mode conn t ms = .ok (queued ext conn (.mode t ms)) := by
  have : Gen.Conn_Mode conn t ms = Gen.Conn_Raw conn
      (Gen.MODE ++ [32] ++ t ++ (if join [32] ms == [] then [] else [32] ++ join [32] ms)) := by
    rw [Gen.Conn_Mode]; cases join [32] ms <;> rfl
  rw [this]
  exact raw_queued ext conn (.mode t ms) _ (by rw [rawArgs, V_MODE]; rfl)

/-- [C08] -/
theorem gen_Conn_Away (ext : UnicodeExt) (conn : Gen.Conn) (m : List Bytes) :
    Gen.Conn_Away conn m = .ok (queued ext conn (.away m)) := by
  have : Gen.Conn_Away conn m = Gen.Conn_Raw conn (Gen.AWAY ++ optTrail m) := by
    rw [← optTrail_eq, Gen.Conn_Away]; split <;> rfl
  rw [this]
  exact raw_queued ext conn (.away m) _ (by rw [rawArgs, V_AWAY])

/-- [C08] -/
theorem gen_Conn_Invite (ext : UnicodeExt) (conn : Gen.Conn) (n ch : Bytes) :
    Gen.Conn_Invite conn n ch = .ok (queued ext conn (.invite n ch)) :=
  raw_queued ext conn (.invite n ch) _ (by rw [rawArgs, V_INVITE]; rfl)

/-- [C08] -/
theorem gen_Conn_Oper (ext : UnicodeExt) (conn : Gen.Conn) (u p : Bytes) :
    Gen.Conn_Oper conn u p = .ok (queued ext conn (.oper u p)) :=
  raw_queued ext conn (.oper u p) _ (by rw [rawArgs, V_OPER]; rfl)

/-- [C08] -/
theorem gen_Conn_VHost (ext : UnicodeExt) (conn : Gen.Conn) (u p : Bytes) :
    Gen.Conn_VHost conn u p = .ok (queued ext conn (.vhost u p)) :=
  raw_queued ext conn (.vhost u p) _ (by rw [rawArgs, V_VHOST]; rfl)

/-- [C08,C18] -/
theorem gen_Conn_Ping (ext : UnicodeExt) (conn : Gen.Conn) (m : Bytes) :
    Gen.Conn_Ping conn m = .ok (queued ext conn (.ping m)) :=
  raw_queued ext conn (.ping m) _ (by rw [rawArgs, V_PING]; rfl)

/-- [C08,C09,C18] -/
theorem gen_Conn_Pong (ext : UnicodeExt) (conn : Gen.Conn) (m : Bytes) :
    Gen.Conn_Pong conn m = .ok (queued ext conn (.pong m)) :=
  raw_queued ext conn (.pong m) _ (by rw [rawArgs, V_PONG]; rfl)

/-- [C08,C19] -/
theorem gen_Conn_Cap (ext : UnicodeExt) (conn : Gen.Conn) (sub : Bytes) (caps : List Bytes) :
    Gen.Conn_Cap conn sub caps = .ok (queued ext conn (.cap sub caps)) := by
  cases caps with
  | nil =>
    have h0 : (Rt.len ([] : List Bytes) == 0) = true := rfl
    simp only [Gen.Conn_Cap, h0, if_true]
    rw [raw_queued ext conn (.cap sub []) (Gen.CAP ++ [32] ++ sub) (by rw [rawArgs, V_CAP]; rfl)]
    rfl
  | cons a as =>
    have h0 : (Rt.len (a :: as) == 0) = false := by simp [Rt.len]; omega
    simp only [Gen.Conn_Cap, h0, Bool.false_eq_true, if_false, gen_splitArgs]
    exact rawLoop_queued ext conn (.cap sub (a :: as)) _ _ _ (fun _ _ => rfl) (by rw [rawArgs, V_CAP]; rfl)

/-- [C08,C19] -/
theorem gen_Conn_Authenticate (ext : UnicodeExt) (conn : Gen.Conn) (m : Bytes) :
    Gen.Conn_Authenticate conn m = .ok (queued ext conn (.authenticate m)) :=
  raw_queued ext conn (.authenticate m) _ (by rw [rawArgs, V_AUTHENTICATE]; rfl)

/-- [C08,C11] -/
theorem gen_Conn_Ctcp (ext : UnicodeExt) (conn : Gen.Conn) (t c : Bytes) (arg : List Bytes) :
    Gen.Conn_Ctcp ext conn t c arg = .ok (queued ext conn (.ctcp t c arg)) := by
  rw [Gen.Conn_Ctcp, gen_splitMessage]
  exact rawLoop_queued ext conn (.ctcp t c arg)
    (fun s => Gen.PRIVMSG ++ [32] ++ t ++ [32, 58, 1] ++ toUpper ext c ++ (if s == [] then [] else [32] ++ s) ++ [1]) _ _
    (fun s _ => by cases s <;> rfl) (by rw [rawArgs, V_PRIVMSG]; rfl)

/-- [C08,C11] -/
theorem gen_Conn_CtcpReply (ext : UnicodeExt) (conn : Gen.Conn) (t c : Bytes) (arg : List Bytes) :
    Gen.Conn_CtcpReply ext conn t c arg = .ok (queued ext conn (.ctcpReply t c arg)) := by
  rw [Gen.Conn_CtcpReply, gen_splitMessage]
  exact rawLoop_queued ext conn (.ctcpReply t c arg)
    (fun s => Gen.NOTICE ++ [32] ++ t ++ [32, 58, 1] ++ toUpper ext c ++ (if s == [] then [] else [32] ++ s) ++ [1]) _ _
    (fun s _ => by cases s <;> rfl) (by rw [rawArgs, V_NOTICE]; rfl)

/-- [C08,C11] -/
theorem gen_Conn_Version (ext : UnicodeExt) (conn : Gen.Conn) (t : Bytes) :
    Gen.Conn_Version ext conn t = .ok (queued ext conn (.version t)) := by
  rw [Gen.Conn_Version, gen_Conn_Ctcp ext, queued, queued, exec, exec, rawArgs, rawArgs, V_VERSION]; rfl

/-- [C08,C11] -/
theorem gen_Conn_Action (ext : UnicodeExt) (conn : Gen.Conn) (t m : Bytes) :
    Gen.Conn_Action ext conn t m = .ok (queued ext conn (.action t m)) := by
  rw [Gen.Conn_Action, gen_Conn_Ctcp ext, queued, queued, exec, exec, rawArgs, rawArgs, V_ACTION]; rfl

end GenCheck
