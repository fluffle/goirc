import Goirc.GenCheck
import Goirc.Model.Client
import Goirc.GenCheck.ParseLemmas
import Goirc.Proofs.ClientCaps
/-!
# Generated = model: `DefaultNewNick` and the capability set (`capSet.Add / Clear / Has / Size`)
The model keeps a capability set as an association list with unique keys (`Go.Client.capAdd` inserts with `AL.insert`); the
generated code uses the translator's insertion-ordered map with replace-in-place. On lists with unique keys the two agree.
-/
namespace GenCheck
open Go Go.Client ParseLemmas

theorem nick_byte_lt (c : UInt8) :
    (if 48 ≤ c ∧ c ≤ 57 then 48 + (((c - 48) + 1) % 10)
      else if 65 ≤ c ∧ c ≤ 125 then 65 + (((c - 65) + 1) % 61) else (95 : UInt8)) < 128 := by
  revert c
  exact UInt8.forall_of_lt (by decide +kernel)

/-- The generated code appends `string(b')` for the new last byte `b'`, which for a byte from 0x80 on would be its two-byte UTF-8
encoding (`Rt.byteString`); the model appends the byte. `nick_byte_lt` (the new byte is below 128) is why they agree. -/
theorem DefaultNewNick_snoc (L : Bytes) (b : UInt8) :
    Gen.DefaultNewNick (L ++ [b]) = .ok (defaultNewNick (L ++ [b])) := by
  have hlen : Rt.len (L ++ [b]) = (L.length : Int) + 1 := by simp [Rt.len]
  have hne : ((L.length : Int) + 1 == 0) = false := by
    simp only [beq_eq_false_iff_ne, ne_eq]; omega
  have hidx : Rt.idx (L ++ [b]) ((L.length : Int) + 1 - 1) = .ok b := by
    simp [Rt.idx, pure, Except.pure]
  have hsl : Rt.sliceTo (L ++ [b]) ((L.length : Int) + 1 - 1) = .ok L := by
    simp [Rt.sliceTo, pure, Except.pure]; omega
  have hb := nick_byte_lt b
  unfold Gen.DefaultNewNick defaultNewNick
  simp only [hlen, hne, hidx, hsl]
  simp only [Bool.false_eq_true, if_false, bind, Except.bind, pure, Except.pure, List.getLast?_append, List.getLast?_singleton,
    List.dropLast_concat, Option.some_or, ge_iff_le, Bool.and_eq_true, decide_eq_true_eq]
  split
  · rename_i h; rw [if_pos h] at hb; simp [Rt.byteString, hb]
  · rename_i h; rw [if_neg h] at hb
    split
    · rename_i h2; rw [if_pos h2] at hb; simp [Rt.byteString, hb]
    · simp [Rt.byteString]

/-- [C17] `DefaultNewNick` as generated from connection.go never panics and is the model's generator -/
theorem gen_DefaultNewNick (old : Bytes) : Gen.DefaultNewNick old = .ok (defaultNewNick old) := by
  rcases List.eq_nil_or_concat old with e | ⟨L, b, e⟩
  · subst e; rfl
  · subst e; rw [List.concat_eq_append]; exact DefaultNewNick_snoc L b

theorem map_of_not_mem (m : List (Bytes × Bool)) (k : Bytes) (v : Bool) (h : k ∉ AL.keys m) :
    m.map (fun p => if p.1 == k then (k, v) else p) = m := by
  induction m with
  | nil => rfl
  | cons p rest ih =>
    simp only [AL.keys, List.map_cons, List.mem_cons, not_or] at h
    have hne : (p.1 == k) = false := beq_false_of_ne fun e => h.1 e.symm
    simp only [List.map_cons, hne, Bool.false_eq_true, if_false]
    rw [ih h.2]

theorem bmapInsert_eq_insert (m : List (Bytes × Bool)) (k : Bytes) (v : Bool) (h : (AL.keys m).Nodup) :
    Rt.bmapInsert m k v = AL.insert m k v := by
  induction m with
  | nil => rfl
  | cons p rest ih =>
    obtain ⟨k', v'⟩ := p
    simp only [AL.keys, List.map_cons, List.nodup_cons] at h
    by_cases hk : k' = k
    · subst hk
      have h1 : k' ∉ AL.keys rest := h.1
      simp only [Rt.bmapInsert, List.any_cons, BEq.rfl, Bool.true_or, if_true, List.map_cons, AL.insert]
      rw [map_of_not_mem rest k' v h1]
    · have hne : (k' == k) = false := beq_false_of_ne hk
      have ih' := ih h.2
      simp only [Rt.bmapInsert] at ih'
      simp only [Rt.bmapInsert, List.any_cons, hne, Bool.false_or, List.map_cons, Bool.false_eq_true, if_false, AL.insert, if_neg hk]
      rw [← ih']
      split <;> simp

theorem capAdd_nodup (m : List (Bytes × Bool)) (caps : List Bytes) (h : (AL.keys m).Nodup) : (AL.keys (capAdd m caps)).Nodup :=
  keys_capAdd_nodup m caps h

theorem forIn_capAdd (f : Bytes → Gen.capSet → Rt.M (ForInStep Gen.capSet))
    (hf : ∀ cap m, (AL.keys m).Nodup → f cap { caps := some m } = .ok (.yield { caps := some (capStep m cap) }))
    (caps : List Bytes) (m : List (Bytes × Bool)) (h : (AL.keys m).Nodup) :
    forIn caps ({ caps := some m } : Gen.capSet) f = .ok { caps := some (capAdd m caps) } := by
  induction caps generalizing m with
  | nil => rfl
  | cons cap rest ih =>
    rw [List.forIn_cons, hf cap m h, capAdd_cons]
    exact ih _ (capStep_nodup m cap h)

/-- [C19] `capSet.Add` as generated from handlers.go is the model's `capAdd` (on a set with unique keys, which is what `capabilitySet()` and `Add` / `Clear` produce) -/
theorem gen_capSet_Add (m : List (Bytes × Bool)) (caps : List Bytes) (h : (AL.keys m).Nodup) :
    Gen.capSet_Add { caps := some m } caps = .ok { caps := some (capAdd m caps) } := by
  unfold Gen.capSet_Add
  dsimp only
  rw [forIn_capAdd _ _ caps m h]
  · rfl
  · intro cap m hm
    cases cap with
    | nil =>
      simp only [hasPrefix, Bool.false_eq_true, if_false, Rt.bmapSet, capStep, bind, Except.bind, pure, Except.pure,
        bmapInsert_eq_insert _ _ _ hm]
    | cons x name =>
      by_cases hx : x = 45
      · subst hx
        simp only [hasPrefix_single, BEq.rfl, if_true, sliceFrom_cons_one, Rt.bmapSet, capStep, bind, Except.bind, pure, Except.pure,
          bmapInsert_eq_insert _ _ _ hm]
      · have hne : (x == 45) = false := beq_false_of_ne hx
        have hst := capStep_plain m (x :: name) (by simpa using hx)
        simp only [hasPrefix_single, hne, Bool.false_eq_true, if_false, Rt.bmapSet, hst, bind, Except.bind, pure, Except.pure,
          bmapInsert_eq_insert _ _ _ hm]

/-- [C19] `capSet.Has` as generated from handlers.go is the model's `capHas` -/
theorem gen_capSet_Has (m : List (Bytes × Bool)) (cap : Bytes) : Gen.capSet_Has { caps := some m } cap = .ok (capHas m cap) := by
  simp only [Gen.capSet_Has, Rt.bmapGet, capHas, pure, Except.pure]
  congr 1
  induction m with
  | nil => rfl
  | cons p rest ih =>
    obtain ⟨k, v⟩ := p
    by_cases hk : k = cap
    · subst hk; simp [AL.lookup]
    · have hne : (k == cap) = false := beq_false_of_ne hk
      simp only [List.find?_cons, hne, AL.lookup, if_neg hk]
      exact ih

/-- [C19] `capSet.Clear` (run by `initialise` at every connect) as generated from handlers.go leaves the empty set -/
theorem gen_capSet_Clear (c : Gen.capSet) : Gen.capSet_Clear c = .ok { caps := some [] } := by
  rfl

/-- [C19] `capSet.Size` as generated from handlers.go counts the entries -/
theorem gen_capSet_Size (m : List (Bytes × Bool)) : Gen.capSet_Size { caps := some m } = .ok (m.length : Int) := by
  rfl
end GenCheck
