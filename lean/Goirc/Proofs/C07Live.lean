import Goirc.Model.Life
import Goirc.Proofs.C07
import Goirc.Proofs.C07Cancel
/-!
# C07: inevitability - after a cancellation the teardown begins on EVERY maximal run of the connection's own steps,
and a teardown that has begun is finished on every maximal run of teardown steps

Progress (`cancel_progress`, `teardown_progress`) and a measure that every such step lowers (`own_step_lowers`,
`work_decreases`), put together in `inevitable_of_acc`: no fairness assumption is needed.
-/
namespace Proofs.C07Live
open Go.Life Proofs.Life Proofs.C07 Proofs.C07Cancel

def OwnStep (s' s : St) : Prop :=
  Reach s ∧ s.connected = true ∧ s.g.cancelled = true ∧ ∃ l, isOwn l = true ∧ step s l = some s'

/-- the watchdog that has not fired weighs 3: firing sends an idle thread to `xWant` (2 in `pcWeight`) and must still
lower the sum -/
def watchWeight : Bool → Nat | true => 3 | false => 0

/-- remaining steps of a thread that is inside Connect / closeFor, while the connection stays up (nobody is at `xDrain`
then, and the step from `xLocked` either gives up or ends the run: the teardown has begun) -/
def pcWeight : TPc → Nat
  | .idle => 0
  | .cWant => 2
  | .cLocked => 1
  | .cRegister _ => 2
  | .cRet _ => 1
  | .xWant _ => 2
  | .xLocked _ => 1
  | .xDrain _ => 0
  | .xFire _ => 1

/-- beyond the bound of `Inv.fin` all threads are idle and weigh nothing, so this is the sum over all threads
(`threadsWeight_idle`) -/
def threadsWeight (f : Nat → TPc) : Nat → Nat
  | 0 => 0
  | n + 1 => threadsWeight f n + pcWeight (f n)

theorem threadsWeight_idle {f : Nat → TPc} {N : Nat} (h : ∀ t, N ≤ t → f t = .idle) :
    ∀ M, N ≤ M → threadsWeight f M = threadsWeight f N := by
  intro M hM
  induction M with
  | zero => have : N = 0 := by omega
            subst this; rfl
  | succ M ih =>
    by_cases e : N = M + 1
    · subst e; rfl
    · have h1 : N ≤ M := by omega
      simp only [threadsWeight]
      rw [ih h1, h M h1]
      simp [pcWeight]

theorem threadsWeight_ext {f g : Nat → TPc} :
    ∀ N, (∀ t, t < N → f t = g t) → threadsWeight f N = threadsWeight g N := by
  intro N
  induction N with
  | zero => intro _; rfl
  | succ N ih =>
    intro h
    simp only [threadsWeight]
    rw [ih (fun t ht => h t (by omega)), h N (by omega)]

theorem threadsWeight_set {f : Nat → TPc} {t : Nat} {p : TPc} : ∀ N, t < N →
    threadsWeight (fun u => if u = t then p else f u) N + pcWeight (f t) = threadsWeight f N + pcWeight p := by
  intro N
  induction N with
  | zero => intro h; omega
  | succ N ih =>
    intro h
    simp only [threadsWeight]
    by_cases e : t = N
    · subst e
      have : threadsWeight (fun u => if u = t then p else f u) t = threadsWeight f t :=
        threadsWeight_ext t fun u hu => by
          have : u ≠ t := by omega
          simp [this]
      rw [this]
      simp
      omega
    · have h1 : t < N := by omega
      have := ih h1
      have e' : ¬ N = t := fun x => e x.symm
      simp only [e', if_false]
      omega

/-- a goroutine that leaves sends a thread on two steps of `closeFor`, hence the factor 3 -/
def LessAt (s' s : St) (t : Tid) : Prop :=
  linesLeft s'.g < linesLeft s.g ∨
    (linesLeft s'.g = linesLeft s.g ∧
      3 * workLeft s'.g + watchWeight s'.g.watch + pcWeight (s'.thr t) <
        3 * workLeft s.g + watchWeight s.g.watch + pcWeight (s.thr t))

theorem leaves_teardown {l t} (h : leaves l = some t) : isTeardown l = true := by
  cases l <;> simp [leaves] at h <;> rfl

theorem inner_own {l} (h : inner l = true) (ho : isOwn l = true) : isTeardown l = true := by
  cases l <;> simp [inner, isOwn] at h ho <;> rfl

/-- By cases on `Move`: a thread inside Connect / closeFor comes one step nearer its end, the watchdog and a leaving goroutine
pay 3 for the 2 they add, the other goroutine steps are `work_decreases`. -/
theorem own_step_lowers {s s' : St} {l : Label} (inv : Inv s) (hc : s.connected = true) (hx : s.g.cancelled = true)
    (ho : isOwn l = true) (hs : step s l = some s') :
    (s'.connected = false ∧ Draining s') ∨
    (s'.connected = true ∧ s'.g.cancelled = true ∧ ∃ t, (∀ u, u ≠ t → s'.thr u = s.thr u) ∧ LessAt s' s t) := by
  have hnd : ∀ t g, s.thr t ≠ .xDrain g := fun t g h => by simpa [hc] using (inv.drain t g h).2.1
  have work (hl : isTeardown l = true) := work_decreases hs hl fun t e => by
    subst e
    cases Move.of_step hs with
    | xFinish _ g ht => exact hnd t g ht
    | leave _ _ _ h | inner _ _ h => cases h
  cases Move.of_step hs with
  | connect | close | stale => cases ho
  | cLock t ht | cRefuse t ht | cRegister t g ht | cRet t g ht | xLock t tg ht | xNoop t tg ht | xFire t g ht =>
    exact .inr ⟨hc, hx, t, fun u hu => if_neg hu, .inr ⟨rfl, by simp [setThr, ht, pcWeight]⟩⟩
  | cSucceed _ _ _ _ hc' => simp [hc] at hc'
  | xBegin t => exact .inl ⟨rfl, t, _, if_pos rfl⟩
  | xFinish t g ht => exact absurd ht (hnd t g)
  | watchFire t hw _ ht =>
    exact .inr ⟨hc, hx, t, fun u hu => if_neg hu, .inr ⟨rfl, by simp [setThr, ht, pcWeight, watchWeight, hw, workLeft]⟩⟩
  | leave l t g' hl ht k =>
    refine .inr ⟨hc, k.cancelled hx, t, fun u hu => if_neg hu, ?_⟩
    have := work (leaves_teardown hl)
    simp only [LessAt, setThr, if_pos, ht, pcWeight, k.watch] at this ⊢
    omega
  | inner l g' hl k =>
    refine .inr ⟨hc, k.cancelled hx, 0, fun _ _ => rfl, ?_⟩
    have := work (inner_own hl ho)
    simp only [LessAt, k.watch] at this ⊢
    omega

/-- second component of the measure of own steps (the first is `linesLeft`): the right side of `LessAt` with all threads
below `N` in place of the moved one -/
def ownWorkLeft (s : St) (N : Nat) : Nat := 3 * workLeft s.g + watchWeight s.g.watch + threadsWeight s.thr N

theorem ownStep_acc : ∀ (p : Nat × Nat) (s : St) (N : Nat), (∀ t, N ≤ t → s.thr t = .idle) →
    (linesLeft s.g, ownWorkLeft s N) = p → Acc OwnStep s := by
  intro p
  induction p using (Prod.lex Nat.lt_wfRel Nat.lt_wfRel).wf.induction with
  | _ p ih =>
    rintro s N hN rfl
    constructor
    rintro s' ⟨hr, hc, hx, l, ho, hs⟩
    rcases own_step_lowers (inv_reach hr) hc hx ho hs with ⟨hc', -⟩ | ⟨-, -, t, hthr, hm⟩
    · exact ⟨_, fun _ h' => absurd (hc'.symm.trans h'.2.1) nofun⟩
    · have hN' : ∀ u, max N (t + 1) ≤ u → s'.thr u = .idle := fun u hu => by
        rw [hthr u (Nat.ne_of_gt (Nat.le_trans (Nat.le_max_right ..) hu))]
        exact hN u (Nat.le_trans (Nat.le_max_left ..) hu)
      refine ih _ ?_ s' _ hN' rfl
      rcases hm with hm | ⟨h1, h2⟩
      · exact .left _ _ hm
      · rw [h1]
        refine .right _ ?_
        have e0 : threadsWeight s'.thr (max N (t + 1)) = threadsWeight (setThr s t (s'.thr t)) (max N (t + 1)) :=
          threadsWeight_ext _ fun u _ => by
            simp only [setThr]; split
            · subst_vars; rfl
            · exact hthr u ‹_›
        have e1 : threadsWeight s.thr (max N (t + 1)) = threadsWeight s.thr N := threadsWeight_idle hN _ (Nat.le_max_left ..)
        have e2 : threadsWeight (setThr s t (s'.thr t)) (max N (t + 1)) + pcWeight (s.thr t) =
            threadsWeight s.thr (max N (t + 1)) + pcWeight (s'.thr t) :=
          threadsWeight_set (f := s.thr) _ (Nat.lt_of_lt_of_le (Nat.lt_succ_self t) (Nat.le_max_right ..))
        show ownWorkLeft s' _ < ownWorkLeft s N
        unfold ownWorkLeft
        omega

theorem own_terminates (s : St) : Acc OwnStep s := by
  constructor
  intro s' h
  obtain ⟨N, hN⟩ := (inv_reach h.1).fin
  exact (ownStep_acc _ s N hN rfl).inv h

/-- Steps of kinds other than `k` are not looked at: they are taken to stand still (for `isOwn` the environment and new API
calls, for `isTeardown` the closers' `xLock`, `xTest`, `xFire` as well). -/
inductive Inevitable (k : Label → Bool) (P : St → Prop) : St → Prop
  | now {s} : P s → Inevitable k P s
  | later {s} : (∃ l s', k l = true ∧ step s l = some s') →
      (∀ l s', k l = true → step s l = some s' → Inevitable k P s') → Inevitable k P s

theorem closer_own {l : Label} (h : isCloser l = true) : isOwn l = true := by
  cases l <;> simp [isCloser] at h <;> rfl

theorem inevitable_of_acc {k : Label → Bool} {P I : St → Prop} {R : St → St → Prop}
    (progress : ∀ s, I s → ∃ l s', k l = true ∧ step s l = some s')
    (next : ∀ s l s', I s → k l = true → step s l = some s' → P s' ∨ (R s' s ∧ I s'))
    {s : St} (acc : Acc R s) (hI : I s) : Inevitable k P s := by
  induction acc with
  | intro s _ ih =>
    refine .later (progress s hI) fun l s' hl hs => ?_
    rcases next s l s' hI hl hs with hp | ⟨hr, hi⟩
    · exact .now hp
    · exact ih s' hr hi

theorem cancel_inevitable {s : St} (h : Reach s) (hc : s.connected = true) (hx : s.g.cancelled = true) :
    Inevitable isOwn (fun s => s.connected = false ∧ Draining s) s :=
  inevitable_of_acc (I := fun s => Reach s ∧ s.connected = true ∧ s.g.cancelled = true)
    (fun _ ⟨h, hc, hx⟩ => let ⟨l, s', hl, hs⟩ := cancel_progress h hc hx; ⟨l, s', closer_own hl, hs⟩)
    (fun _ l _ ⟨h, hc, hx⟩ hl hs => (own_step_lowers (inv_reach h) hc hx hl hs).imp id
      fun ⟨hc', hx', _⟩ => ⟨⟨h, hc, hx, l, hl, hs⟩, h.step hs, hc', hx'⟩)
    (own_terminates s) ⟨h, hc, hx⟩

theorem teardown_inevitable {s : St} (h : Reach s) (hd : Draining s) :
    Inevitable isTeardown (fun s => ¬ Draining s) s :=
  inevitable_of_acc (I := fun s => Reach s ∧ Draining s)
    (fun _ ⟨h, hd⟩ => teardown_progress h hd)
    (fun _ l s' ⟨h, hd⟩ hl hs => (Classical.em (Draining s')).symm.imp id
      fun hd' => ⟨⟨h, hd, l, hl, hs⟩, h.step hs, hd'⟩)
    (teardown_acc s) ⟨h, hd⟩

end Proofs.C07Live
