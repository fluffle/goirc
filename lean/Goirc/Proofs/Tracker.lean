import Goirc.Proofs.AList
import Goirc.Spec.Tracker
import Goirc.Props.C12Rel
/-!
# Simulation relation between the heap model of the tracker and the relational spec

The invariant `WF` of the heap (registries, the three link maps and the privilege cells agree) and the abstraction `Abs` to the
spec's state are together the simulation relation `R`.  Two ways a state change leaves things alone: `WF.of_sameSkel` /
`R.of_live_eq` (all that `WF`, resp. `R`, reads is what is live) and `Keeps` (everything but registries and links).  `R` makes the
snapshots agree (`nickSnap_sim`, `chanSnap_sim`) and is kept by a change of attributes or privileges; the other kinds of update
have a module each.
-/
namespace Go.Tracker
open AL

/- `getN` on the bare heap list.  `getN s i` is stuck under `simp` when `s` is a structure literal or a `{ s with .. }`
update; `getX_mk` turns it into a read of the one list that matters and `hgetX_proj` turns that back into `getX` of the
state the list came from. -/
def hgetN (h : List (Id × NickObj)) (i : Id) : NickObj := (AL.lookup h i).getD { nick := [] }
def hgetC (h : List (Id × ChanObj)) (i : Id) : ChanObj := (AL.lookup h i).getD { name := [] }
def hgetP (h : List (Id × ChanPrivs)) (i : Id) : ChanPrivs := (AL.lookup h i).getD {}

@[simp] theorem getN_mk (h ch ce n c m f) (i : Id) : getN ⟨h, ch, ce, n, c, m, f⟩ i = hgetN h i := rfl
@[simp] theorem getC_mk (h ch ce n c m f) (i : Id) : getC ⟨h, ch, ce, n, c, m, f⟩ i = hgetC ch i := rfl
@[simp] theorem getP_mk (h ch ce n c m f) (i : Id) : getP ⟨h, ch, ce, n, c, m, f⟩ i = hgetP ce i := rfl
@[simp] theorem hgetN_proj (s : St) (i : Id) : hgetN s.nickHeap i = getN s i := rfl
@[simp] theorem hgetC_proj (s : St) (i : Id) : hgetC s.chanHeap i = getC s i := rfl
@[simp] theorem hgetP_proj (s : St) (i : Id) : hgetP s.cells i = getP s i := rfl
@[simp] theorem hgetN_insert (h : List (Id × NickObj)) (i : Id) (o : NickObj) (j : Id) :
    hgetN (AL.insert h i o) j = if i = j then o else hgetN h j :=
  lookup_insert_getD h i o j _
@[simp] theorem hgetC_insert (h : List (Id × ChanObj)) (i : Id) (o : ChanObj) (j : Id) :
    hgetC (AL.insert h i o) j = if i = j then o else hgetC h j :=
  lookup_insert_getD h i o j _
@[simp] theorem hgetP_insert (h : List (Id × ChanPrivs)) (i : Id) (o : ChanPrivs) (j : Id) :
    hgetP (AL.insert h i o) j = if i = j then o else hgetP h j :=
  lookup_insert_getD h i o j _

@[simp] theorem setN_nicks (s : St) (i : Id) (o : NickObj) : (setN s i o).nicks = s.nicks := rfl
@[simp] theorem setN_chans (s : St) (i : Id) (o : NickObj) : (setN s i o).chans = s.chans := rfl
@[simp] theorem setN_me (s : St) (i : Id) (o : NickObj) : (setN s i o).me = s.me := rfl
@[simp] theorem setN_fresh (s : St) (i : Id) (o : NickObj) : (setN s i o).fresh = s.fresh := rfl
@[simp] theorem getN_setN (s : St) (i : Id) (o : NickObj) (j : Id) :
    getN (setN s i o) j = if i = j then o else getN s j := by simp [setN]
@[simp] theorem getC_setN (s : St) (i : Id) (o : NickObj) (j : Id) : getC (setN s i o) j = getC s j := rfl
@[simp] theorem getP_setN (s : St) (i : Id) (o : NickObj) (j : Id) : getP (setN s i o) j = getP s j := rfl
@[simp] theorem setC_nicks (s : St) (i : Id) (o : ChanObj) : (setC s i o).nicks = s.nicks := rfl
@[simp] theorem setC_chans (s : St) (i : Id) (o : ChanObj) : (setC s i o).chans = s.chans := rfl
@[simp] theorem setC_me (s : St) (i : Id) (o : ChanObj) : (setC s i o).me = s.me := rfl
@[simp] theorem setC_fresh (s : St) (i : Id) (o : ChanObj) : (setC s i o).fresh = s.fresh := rfl
@[simp] theorem getC_setC (s : St) (i : Id) (o : ChanObj) (j : Id) :
    getC (setC s i o) j = if i = j then o else getC s j := by simp [setC]
@[simp] theorem getN_setC (s : St) (i : Id) (o : ChanObj) (j : Id) : getN (setC s i o) j = getN s j := rfl
@[simp] theorem getP_setC (s : St) (i : Id) (o : ChanObj) (j : Id) : getP (setC s i o) j = getP s j := rfl
@[simp] theorem setP_nicks (s : St) (i : Id) (o : ChanPrivs) : (setP s i o).nicks = s.nicks := rfl
@[simp] theorem setP_chans (s : St) (i : Id) (o : ChanPrivs) : (setP s i o).chans = s.chans := rfl
@[simp] theorem setP_me (s : St) (i : Id) (o : ChanPrivs) : (setP s i o).me = s.me := rfl
@[simp] theorem setP_fresh (s : St) (i : Id) (o : ChanPrivs) : (setP s i o).fresh = s.fresh := rfl
@[simp] theorem getP_setP (s : St) (i : Id) (o : ChanPrivs) (j : Id) :
    getP (setP s i o) j = if i = j then o else getP s j := by simp [setP]
@[simp] theorem getN_setP (s : St) (i : Id) (o : ChanPrivs) (j : Id) : getN (setP s i o) j = getN s j := rfl
@[simp] theorem getC_setP (s : St) (i : Id) (o : ChanPrivs) (j : Id) : getC (setP s i o) j = getC s j := rfl

theorem getN_setN_same {β : Type} (π : NickObj → β) {s : St} {i : Id} {o : NickObj} (h : π o = π (getN s i)) (j : Id) :
    π (getN (setN s i o) j) = π (getN s j) := by
  rw [getN_setN]; split
  · subst_vars; exact h
  · rfl
theorem getC_setC_same {β : Type} (π : ChanObj → β) {s : St} {i : Id} {o : ChanObj} (h : π o = π (getC s i)) (j : Id) :
    π (getC (setC s i o) j) = π (getC s j) := by
  rw [getC_setC]; split
  · subst_vars; exact h
  · rfl

def LiveN (st : St) (i : Id) : Prop := AL.lookup st.nicks (getN st i).nick = some i
def LiveC (st : St) (c : Id) : Prop := AL.lookup st.chans (getC st c).name = some c

/-- The invariant of the heap.  Every field speaks of live objects only: nothing is ever freed, an unregistered object
stays in its heap and may hold anything.  Of Go's six maps five are constrained; `NickObj.lookup` (`nick.lookup`) is left
out on purpose: the operations write it and none reads it, so no answer depends on it. -/
structure WF (st : St) : Prop where
  -- a registry entry points at the object of that name: the registries are injective, and registered means live
  nick_name : ∀ a i, AL.lookup st.nicks a = some i → (getN st i).nick = a
  chan_name : ∀ a c, AL.lookup st.chans a = some c → (getC st c).name = a
  -- the client's own nick is registered; only ever carried along (beside `Abs.me` it says nothing more)
  me_live : LiveN st st.me
  -- no key twice in a link map: the snapshots list every entry, and `delChannel`/`ReNick` fold over the keys
  nk_nodup : ∀ i, LiveN st i → (AL.keys (getN st i).chans).Nodup
  ch_nodup : ∀ c, LiveC st c → (AL.keys (getC st c).nicks).Nodup
  -- a link is recorded at both ends with the same privilege cell, and only between live objects
  nk_ch : ∀ i, LiveN st i → ∀ c cell, AL.lookup (getN st i).chans c = some cell →
    LiveC st c ∧ AL.lookup (getC st c).nicks i = some cell
  ch_nk : ∀ c, LiveC st c → ∀ i cell, AL.lookup (getC st c).nicks i = some cell →
    LiveN st i ∧ AL.lookup (getN st i).chans c = some cell
  -- `channel.lookup` lists the members, and only them, under their present names (`ChannelModes` finds its target there)
  ch_lookup : ∀ c, LiveC st c → ∀ a i, AL.lookup (getC st c).lookup a = some i ↔
    (AL.has (getC st c).nicks i = true ∧ (getN st i).nick = a)
  -- a privilege cell belongs to one membership: writing it (`R_setP`) changes nobody else's privileges
  cell_inj : ∀ i, LiveN st i → ∀ j, LiveN st j → ∀ c d cell,
    AL.lookup (getN st i).chans c = some cell → AL.lookup (getN st j).chans d = some cell → i = j ∧ c = d
  -- every id in use is below `fresh`, so the next allocation collides with nothing live
  fresh_nick : ∀ a i, AL.lookup st.nicks a = some i → i < st.fresh
  fresh_chan : ∀ a c, AL.lookup st.chans a = some c → c < st.fresh
  fresh_cell : ∀ i, LiveN st i → ∀ c cell, AL.lookup (getN st i).chans c = some cell → cell < st.fresh

theorem WF.liveN {st : St} (w : WF st) {a : Bytes} {i : Id} (h : AL.lookup st.nicks a = some i) : LiveN st i := by
  unfold LiveN; rw [w.nick_name a i h]; exact h
theorem WF.liveC {st : St} (w : WF st) {a : Bytes} {c : Id} (h : AL.lookup st.chans a = some c) : LiveC st c := by
  unfold LiveC; rw [w.chan_name a c h]; exact h
theorem WF.liveN_lt {st : St} (w : WF st) {i : Id} (h : LiveN st i) : i < st.fresh := w.fresh_nick _ _ h
theorem WF.liveC_lt {st : St} (w : WF st) {c : Id} (h : LiveC st c) : c < st.fresh := w.fresh_chan _ _ h
theorem WF.nick_inj {st : St} (w : WF st) {a b : Bytes} {i : Id} (h : AL.lookup st.nicks a = some i)
    (h' : AL.lookup st.nicks b = some i) : a = b := by
  rw [← w.nick_name a i h, w.nick_name b i h']
theorem WF.chan_inj {st : St} (w : WF st) {a b : Bytes} {i : Id} (h : AL.lookup st.chans a = some i)
    (h' : AL.lookup st.chans b = some i) : a = b := by
  rw [← w.chan_name a i h, w.chan_name b i h']
theorem WF.on_eq {st : St} (w : WF st) {c n : Id} (lc : LiveC st c) (ln : LiveN st n) :
    AL.lookup (getN st n).chans c = AL.lookup (getC st c).nicks n := by
  cases h : AL.lookup (getN st n).chans c with
  | some cell => exact (w.nk_ch n ln c cell h).2.symm
  | none =>
    cases h2 : AL.lookup (getC st c).nicks n with
    | none => rfl
    | some cell => rw [(w.ch_nk c lc n cell h2).2] at h; cases h
theorem WF.clookup_eq {st : St} (w : WF st) {c : Id} (lc : LiveC st c) (a : Bytes) :
    AL.lookup (getC st c).lookup a = (AL.lookup st.nicks a).filter fun i => AL.has (getC st c).nicks i := by
  apply Option.ext; intro i
  rw [w.ch_lookup c lc, Option.filter_eq_some_iff, and_comm]
  refine and_congr_left fun h => ⟨fun hn => ?_, w.nick_name a i⟩
  obtain ⟨cell, hcell⟩ := (has_true_iff _ _).1 h
  have := (w.ch_nk c lc i cell hcell).1
  unfold LiveN at this; rwa [hn] at this
/-- the converse of `WF.clookup_eq`, without `WF`: the way to `WF.ch_lookup` of a new state -/
theorem ch_lookup_of_eq {st : St} (nick_name : ∀ a i, AL.lookup st.nicks a = some i → (getN st i).nick = a)
    {c : Id} (live : ∀ i, AL.has (getC st c).nicks i = true → LiveN st i)
    (h : ∀ a, AL.lookup (getC st c).lookup a = (AL.lookup st.nicks a).filter fun i => AL.has (getC st c).nicks i)
    (a : Bytes) (i : Id) :
    AL.lookup (getC st c).lookup a = some i ↔ (AL.has (getC st c).nicks i = true ∧ (getN st i).nick = a) := by
  rw [h, Option.filter_eq_some_iff, and_comm]
  refine and_congr_right fun hi => ⟨nick_name a i, fun hn => ?_⟩
  have := live i hi
  unfold LiveN at this; rwa [hn] at this
theorem LiveN.eq_of_nick {st : St} {i j : Id} (hi : LiveN st i) (hj : LiveN st j)
    (h : (getN st i).nick = (getN st j).nick) : i = j := by
  unfold LiveN at hi hj; rw [h, hj] at hi; exact (Option.some.inj hi).symm
theorem LiveC.eq_of_name {st : St} {i j : Id} (hi : LiveC st i) (hj : LiveC st j)
    (h : (getC st i).name = (getC st j).name) : i = j := by
  unfold LiveC at hi hj; rw [h, hj] at hi; exact (Option.some.inj hi).symm

/-- `WF` reads the registries and, of every live object, its name and links; attributes, privileges, whatever is not
registered and the number of ids in use may differ. -/
theorem WF.of_sameSkel {st st' : St} (w : WF st) (nicks : st'.nicks = st.nicks) (chans : st'.chans = st.chans)
    (me : st'.me = st.me) (fresh : st.fresh ≤ st'.fresh)
    (nnick : ∀ i, LiveN st i → (getN st' i).nick = (getN st i).nick)
    (nchans : ∀ i, LiveN st i → (getN st' i).chans = (getN st i).chans)
    (cname : ∀ c, LiveC st c → (getC st' c).name = (getC st c).name)
    (cnicks : ∀ c, LiveC st c → (getC st' c).nicks = (getC st c).nicks)
    (clookup : ∀ c, LiveC st c → (getC st' c).lookup = (getC st c).lookup) : WF st' := by
  have toN : ∀ i, LiveN st' i → LiveN st i := by
    intro i hi; unfold LiveN at hi; rw [nicks] at hi; exact w.liveN hi
  have ofN : ∀ i, LiveN st i → LiveN st' i := by
    intro i hi; unfold LiveN; rw [nicks, nnick i hi]; exact hi
  have toC : ∀ c, LiveC st' c → LiveC st c := by
    intro c hc; unfold LiveC at hc; rw [chans] at hc; exact w.liveC hc
  have ofC : ∀ c, LiveC st c → LiveC st' c := by
    intro c hc; unfold LiveC; rw [chans, cname c hc]; exact hc
  constructor
  · intro a i hi; rw [nicks] at hi; rw [nnick i (w.liveN hi)]; exact w.nick_name a i hi
  · intro a c hc; rw [chans] at hc; rw [cname c (w.liveC hc)]; exact w.chan_name a c hc
  · rw [me]; exact ofN _ w.me_live
  · intro i hi; rw [nchans i (toN i hi)]; exact w.nk_nodup i (toN i hi)
  · intro c hc; rw [cnicks c (toC c hc)]; exact w.ch_nodup c (toC c hc)
  · intro i hi c cell hx
    rw [nchans i (toN i hi)] at hx
    obtain ⟨hc, hy⟩ := w.nk_ch i (toN i hi) c cell hx
    rw [cnicks c hc]; exact ⟨ofC c hc, hy⟩
  · intro c hc i cell hx
    rw [cnicks c (toC c hc)] at hx
    obtain ⟨hi, hy⟩ := w.ch_nk c (toC c hc) i cell hx
    rw [nchans i hi]; exact ⟨ofN i hi, hy⟩
  · intro c hc a i
    have hc := toC c hc
    rw [clookup c hc, cnicks c hc, w.ch_lookup c hc a i]
    refine and_congr_right fun hi => ?_
    obtain ⟨cell, hcell⟩ := (has_true_iff _ _).1 hi
    rw [nnick i (w.ch_nk c hc i cell hcell).1]
  · intro i hi j hj c d cell hx hy
    rw [nchans i (toN i hi)] at hx; rw [nchans j (toN j hj)] at hy
    exact w.cell_inj i (toN i hi) j (toN j hj) c d cell hx hy
  · intro a i hi; rw [nicks] at hi; exact Nat.lt_of_lt_of_le (w.fresh_nick a i hi) fresh
  · intro a c hc; rw [chans] at hc; exact Nat.lt_of_lt_of_le (w.fresh_chan a c hc) fresh
  · intro i hi c cell hx
    rw [nchans i (toN i hi)] at hx
    exact Nat.lt_of_lt_of_le (w.fresh_cell i (toN i hi) c cell hx) fresh

end Go.Tracker

namespace Spec.Tracker
open Go.Tracker AL Props.C12

def absN (o : NickObj) : SNick := { ident := o.ident, host := o.host, name := o.name, modes := o.modes }
def absC (o : ChanObj) : SChan := { topic := o.topic, modes := o.modes }

/-- What every removal (`delNick`, `delChannel`, `Dissociate`, `Wipe`) leaves alone: all but the registries and the link maps. -/
structure Keeps (s s' : St) : Prop where
  me : s'.me = s.me
  fresh : s'.fresh = s.fresh
  getP : ∀ j, getP s' j = getP s j
  nick : ∀ j, (getN s' j).nick = (getN s j).nick
  absN : ∀ j, absN (getN s' j) = absN (getN s j)
  name : ∀ j, (getC s' j).name = (getC s j).name
  absC : ∀ j, absC (getC s' j) = absC (getC s j)

theorem Keeps.refl (s : St) : Keeps s s :=
  ⟨rfl, rfl, fun _ => rfl, fun _ => rfl, fun _ => rfl, fun _ => rfl, fun _ => rfl⟩
theorem Keeps.trans {a b c : St} (h : Keeps a b) (k : Keeps b c) : Keeps a c :=
  ⟨k.me.trans h.me, k.fresh.trans h.fresh, fun j => (k.getP j).trans (h.getP j), fun j => (k.nick j).trans (h.nick j),
   fun j => (k.absN j).trans (h.absN j), fun j => (k.name j).trans (h.name j), fun j => (k.absC j).trans (h.absC j)⟩
theorem Keeps.setN (s : St) (i : Id) (x : List (Id × Id)) (y : List (Bytes × Id)) :
    Keeps s (setN s i { getN s i with chans := x, lookup := y }) :=
  ⟨rfl, rfl, fun _ => rfl, getN_setN_same NickObj.nick rfl, getN_setN_same Spec.Tracker.absN rfl, fun _ => rfl, fun _ => rfl⟩
theorem Keeps.setC (s : St) (i : Id) (x : List (Id × Id)) (y : List (Bytes × Id)) :
    Keeps s (setC s i { getC s i with nicks := x, lookup := y }) :=
  ⟨rfl, rfl, fun _ => rfl, fun _ => rfl, fun _ => rfl, getC_setC_same ChanObj.name rfl, getC_setC_same Spec.Tracker.absC rfl⟩
theorem Keeps.set_nicks (s : St) (x : List (Bytes × Id)) : Keeps s { s with nicks := x } :=
  ⟨rfl, rfl, fun _ => rfl, fun _ => rfl, fun _ => rfl, fun _ => rfl, fun _ => rfl⟩
theorem Keeps.set_chans (s : St) (x : List (Bytes × Id)) : Keeps s { s with chans := x } :=
  ⟨rfl, rfl, fun _ => rfl, fun _ => rfl, fun _ => rfl, fun _ => rfl, fun _ => rfl⟩
theorem Keeps.foldl {α : Type} (f : St → α → St) (h : ∀ s x, Keeps s (f s x)) (l : List α) (s : St) :
    Keeps s (l.foldl f s) :=
  List.foldlRecOn l f (Keeps.refl s) fun b hb a _ => hb.trans (h b a)

/-- The relational state is the abstraction of the heap.  The spec reads `S.nicks` and `S.chans` through `lookup` only, so
a repeated key there would be invisible and no field forbids it; `S.mem` it also filters as a list (snapshots,
`dropNick`, `dropChan`), so its keys must be distinct. -/
structure Abs (st : St) (S : S) : Prop where
  -- the record under a name is the abstraction of the object registered under it (and absent together)
  nicks : ∀ a, AL.lookup S.nicks a = (AL.lookup st.nicks a).map (fun i => absN (getN st i))
  chans : ∀ a, AL.lookup S.chans a = (AL.lookup st.chans a).map (fun c => absC (getC st c))
  -- a membership carries the contents of the cell that links the two registered objects; read from the nick's end,
  -- `WF.nk_ch` gives the channel's
  mem : ∀ cn a, AL.lookup S.mem (cn, a) =
    (AL.lookup st.chans cn).bind fun c => (AL.lookup st.nicks a).bind fun i =>
      (AL.lookup (getN st i).chans c).map (getP st)
  mem_nodup : (AL.keys S.mem).Nodup
  -- the spec names the client, the heap points at its object
  me : AL.lookup st.nicks S.me = some st.me
  -- the same keys in the same ORDER: `Wipe` folds `delChannel` over this list on either side (`sim_wipe`)
  chan_keys : AL.keys S.chans = AL.keys st.chans

def R (st : St) (S : S) : Prop := WF st ∧ Abs st S

/-- `R` reads the registries, the live objects and the cells in use, nothing else: an unregistered object may be
overwritten and ids taken, which is how `NewNick`, `NewChannel` and `Associate` begin. -/
theorem R.of_live_eq {st st' : St} {S : S} (r : R st S) (nicks : st'.nicks = st.nicks) (chans : st'.chans = st.chans)
    (me : st'.me = st.me) (fresh : st.fresh ≤ st'.fresh) (hN : ∀ j, LiveN st j → getN st' j = getN st j)
    (hC : ∀ j, LiveC st j → getC st' j = getC st j) (hP : ∀ j, j < st.fresh → getP st' j = getP st j) : R st' S := by
  obtain ⟨w, ab⟩ := r
  refine ⟨w.of_sameSkel nicks chans me fresh (fun j hj => by rw [hN j hj]) (fun j hj => by rw [hN j hj])
    (fun j hj => by rw [hC j hj]) (fun j hj => by rw [hC j hj]) (fun j hj => by rw [hC j hj]), ?_⟩
  constructor
  · intro a
    rw [ab.nicks, nicks]
    exact Option.map_congr fun i h => by rw [hN i (w.liveN h)]
  · intro a
    rw [ab.chans, chans]
    exact Option.map_congr fun c h => by rw [hC c (w.liveC h)]
  · intro cn a
    rw [ab.mem, nicks, chans]
    refine Option.bind_congr fun c _ => Option.bind_congr fun i hn => ?_
    rw [hN i (w.liveN hn)]
    exact Option.map_congr fun cell hx => (hP cell (w.fresh_cell i (w.liveN hn) c cell hx)).symm
  · exact ab.mem_nodup
  · rw [nicks, me]; exact ab.me
  · rw [chans]; exact ab.chan_keys

theorem new_nicks (me a : Bytes) : AL.lookup (Go.Tracker.new me).nicks a = if me = a then some 0 else none := rfl
theorem new_chans (me a : Bytes) : AL.lookup (Go.Tracker.new me).chans a = none := rfl
theorem new_getN0 (me : Bytes) : getN (Go.Tracker.new me) 0 = { nick := me } := rfl
theorem new_liveN (me : Bytes) (i : Id) : LiveN (Go.Tracker.new me) i ↔ i = 0 := by
  unfold LiveN; rw [new_nicks]
  constructor
  · intro h; split at h <;> simp_all
  · intro h; subst h; simp [new_getN0]
theorem new_liveC (me : Bytes) (i : Id) : ¬ LiveC (Go.Tracker.new me) i := by
  unfold LiveC; rw [new_chans]; simp

theorem R_new (me : Bytes) : R (Go.Tracker.new me) (Spec.Tracker.new me) := by
  constructor
  · constructor
    · intro a i h; rw [new_nicks] at h; split at h
      · cases h; subst_vars; rfl
      · cases h
    · intro a c h; rw [new_chans] at h; cases h
    · rw [new_liveN]; rfl
    · intro i h; rw [new_liveN] at h; subst h; simp [new_getN0]
    · intro c h; exact absurd h (new_liveC me c)
    · intro i h; rw [new_liveN] at h; subst h; simp [new_getN0]
    · intro c h; exact absurd h (new_liveC me c)
    · intro c h; exact absurd h (new_liveC me c)
    · intro i h; rw [new_liveN] at h; subst h; simp [new_getN0]
    · intro a i h; rw [new_nicks] at h; split at h <;> simp_all [Go.Tracker.new]
    · intro a c h; rw [new_chans] at h; cases h
    · intro i h; rw [new_liveN] at h; subst h; simp [new_getN0]
  · constructor
    · intro a; rw [new_nicks]; simp only [Spec.Tracker.new, lookup_cons]
      split <;> simp [new_getN0, absN]
    · intro a; rw [new_chans]; rfl
    · intro cn a; rw [new_chans]; rfl
    · simp [Spec.Tracker.new]
    · simp [Spec.Tracker.new, Go.Tracker.new, lookup_cons]
    · rfl

theorem Abs.mem_iff {st : St} {S : S} (ab : Abs st S) (cn a : Bytes) (p : ChanPrivs) :
    AL.lookup S.mem (cn, a) = some p ↔ ∃ c i cell, AL.lookup st.chans cn = some c ∧ AL.lookup st.nicks a = some i ∧
      AL.lookup (getN st i).chans c = some cell ∧ getP st cell = p := by
  rw [ab.mem]
  cases h1 : AL.lookup st.chans cn <;> cases h2 : AL.lookup st.nicks a <;> simp

theorem Abs.mem_none_iff {st : St} {S : S} (ab : Abs st S) (cn a : Bytes) :
    AL.lookup S.mem (cn, a) = none ↔ ∀ c i, AL.lookup st.chans cn = some c → AL.lookup st.nicks a = some i →
      AL.lookup (getN st i).chans c = none := by
  rw [ab.mem]
  cases h1 : AL.lookup st.chans cn <;> cases h2 : AL.lookup st.nicks a <;> simp

theorem nickSnap_sim {st : St} {S : S} (r : R st S) {a : Bytes} {i : Id} (h : AL.lookup st.nicks a = some i) :
    NickSnapEq (Go.Tracker.nickSnap st i) (Spec.Tracker.nickSnap S a) := by
  obtain ⟨w, ab⟩ := r
  have hl := w.liveN h
  have hS : absN (getN st i) = (AL.lookup S.nicks a).getD {} := by rw [ab.nicks, h]; rfl
  refine ⟨w.nick_name a i h, congrArg SNick.ident hS, congrArg SNick.host hS, congrArg SNick.name hS,
    congrArg SNick.modes hS, ?_⟩
  · simp only [Go.Tracker.nickSnap, Spec.Tracker.nickSnap]
    rw [List.perm_ext_iff_of_nodup]
    · intro e
      obtain ⟨cn, p⟩ := e
      simp only [List.mem_map, List.mem_filter, Prod.mk.injEq, beq_iff_eq, Prod.exists]
      constructor
      · rintro ⟨c, cell, hm, hn, hp⟩
        have hlk := lookup_of_mem (w.nk_nodup i hl) hm
        have hc := (w.nk_ch i hl c cell hlk).1
        refine ⟨cn, a, p, ⟨?_, rfl⟩, rfl, rfl⟩
        apply mem_of_lookup
        rw [ab.mem_iff]
        refine ⟨c, i, cell, ?_, h, hlk, hp⟩
        rw [← hn]; exact hc
      · rintro ⟨cn', a', p', ⟨hm, ha⟩, hcn, hp⟩
        subst ha hcn hp
        have := lookup_of_mem ab.mem_nodup hm
        rw [ab.mem_iff] at this
        obtain ⟨c, i', cell, h1, h2, h3, h4⟩ := this
        rw [h] at h2; cases h2
        exact ⟨c, cell, mem_of_lookup h3, w.chan_name _ _ h1, h4⟩
    · apply nodup_map_of_keys _ (w.nk_nodup i hl)
      intro x hx y hy hxy
      obtain ⟨c, cell⟩ := x
      obtain ⟨d, cell'⟩ := y
      simp only [Prod.mk.injEq] at hxy
      have hc := (w.nk_ch i hl c cell (lookup_of_mem (w.nk_nodup i hl) hx)).1
      have hd := (w.nk_ch i hl d cell' (lookup_of_mem (w.nk_nodup i hl) hy)).1
      exact hc.eq_of_name hd hxy.1
    · apply nodup_map_of_keys _ (nodup_filter ab.mem_nodup _)
      intro x hx y hy hxy
      simp only [List.mem_filter, beq_iff_eq] at hx hy
      simp only [Prod.mk.injEq] at hxy
      apply Prod.ext hxy.1
      rw [hx.2, hy.2]

theorem Abs.chan_getD {st : St} {S : S} (ab : Abs st S) {c : Bytes} {ci : Id}
    (h : AL.lookup st.chans c = some ci) : (AL.lookup S.chans c).getD {} = absC (getC st ci) := by
  rw [ab.chans, h]; rfl

theorem chanSnap_sim {st : St} {S : S} (r : R st S) {cn : Bytes} {c : Id} (h : AL.lookup st.chans cn = some c) :
    ChanSnapEq (Go.Tracker.chanSnap st c) (Spec.Tracker.chanSnap S cn) := by
  obtain ⟨w, ab⟩ := r
  have hl := w.liveC h
  have hS := (ab.chan_getD h).symm
  refine ⟨w.chan_name cn c h, congrArg SChan.topic hS, congrArg SChan.modes hS, ?_⟩
  · simp only [Go.Tracker.chanSnap, Spec.Tracker.chanSnap]
    rw [List.perm_ext_iff_of_nodup]
    · intro e
      obtain ⟨a, p⟩ := e
      simp only [List.mem_map, List.mem_filter, Prod.mk.injEq, beq_iff_eq, Prod.exists]
      constructor
      · rintro ⟨i, cell, hm, hn, hp⟩
        have hlk := lookup_of_mem (w.ch_nodup c hl) hm
        have hc := w.ch_nk c hl i cell hlk
        refine ⟨cn, a, p, ⟨?_, rfl⟩, rfl, rfl⟩
        apply mem_of_lookup
        rw [ab.mem_iff]
        refine ⟨c, i, cell, h, ?_, hc.2, hp⟩
        rw [← hn]; exact hc.1
      · rintro ⟨cn', a', p', ⟨hm, ha⟩, hcn, hp⟩
        subst ha hcn hp
        have := lookup_of_mem ab.mem_nodup hm
        rw [ab.mem_iff] at this
        obtain ⟨c', i, cell, h1, h2, h3, h4⟩ := this
        rw [h] at h1; cases h1
        exact ⟨i, cell, mem_of_lookup (w.nk_ch i (w.liveN h2) c cell h3).2, w.nick_name _ _ h2, h4⟩
    · apply nodup_map_of_keys _ (w.ch_nodup c hl)
      intro x hx y hy hxy
      obtain ⟨i, cell⟩ := x
      obtain ⟨j, cell'⟩ := y
      simp only [Prod.mk.injEq] at hxy
      have hi := (w.ch_nk c hl i cell (lookup_of_mem (w.ch_nodup c hl) hx)).1
      have hj := (w.ch_nk c hl j cell' (lookup_of_mem (w.ch_nodup c hl) hy)).1
      exact hi.eq_of_nick hj hxy.1
    · apply nodup_map_of_keys _ (nodup_filter ab.mem_nodup _)
      intro x hx y hy hxy
      simp only [List.mem_filter, beq_iff_eq] at hx hy
      simp only [Prod.mk.injEq] at hxy
      apply Prod.ext _ hxy.1
      rw [hx.2, hy.2]

/-- the snapshots list the two as permutations of one another -/
theorem memberships_isEmpty {st : St} {S : S} (r : R st S) {a : Bytes} {n : Id}
    (hn : AL.lookup st.nicks a = some n) :
    (memberships S a).isEmpty = (getN st n).chans.isEmpty := by
  have h := (nickSnap_sim r hn).2.2.2.2.2.length_eq
  simp only [Go.Tracker.nickSnap, Spec.Tracker.nickSnap, List.length_map] at h
  rw [Bool.eq_iff_iff, List.isEmpty_iff_length_eq_zero, List.isEmpty_iff_length_eq_zero, h]; rfl

theorem R.me_iff {st : St} {S : S} (r : R st S) {a : Bytes} {n : Id}
    (hn : AL.lookup st.nicks a = some n) : n = st.me ↔ a = S.me := by
  constructor
  · intro h; subst h; exact r.1.nick_inj hn r.2.me
  · intro h; subst h; have := r.2.me; rw [hn] at this; cases this; rfl

def Sim (st : St) (S : S) (op : Op) : Prop :=
  R (Go.Tracker.step st op).1 (Spec.Tracker.step S op).1 ∧
  RetEq (Go.Tracker.step st op).2 (Spec.Tracker.step S op).2

theorem Abs.has_nicks {st : St} {S : S} (ab : Abs st S) (a : Bytes) : AL.has S.nicks a = AL.has st.nicks a := by
  rw [has_eq, has_eq, ab.nicks]; cases AL.lookup st.nicks a <;> rfl
theorem Abs.has_chans {st : St} {S : S} (ab : Abs st S) (a : Bytes) : AL.has S.chans a = AL.has st.chans a := by
  rw [has_eq, has_eq, ab.chans]; cases AL.lookup st.chans a <;> rfl

theorem Abs.nick_cases {st : St} {S : S} (ab : Abs st S) (a : Bytes) :
    (AL.lookup st.nicks a = none ∧ AL.lookup S.nicks a = none) ∨
    ∃ i, AL.lookup st.nicks a = some i ∧ AL.lookup S.nicks a = some (absN (getN st i)) := by
  have h := ab.nicks a
  cases hl : AL.lookup st.nicks a with
  | none => rw [hl] at h; exact .inl ⟨rfl, h⟩
  | some i => rw [hl] at h; exact .inr ⟨i, rfl, h⟩
theorem Abs.chan_cases {st : St} {S : S} (ab : Abs st S) (a : Bytes) :
    (AL.lookup st.chans a = none ∧ AL.lookup S.chans a = none) ∨
    ∃ c, AL.lookup st.chans a = some c ∧ AL.lookup S.chans a = some (absC (getC st c)) := by
  have h := ab.chans a
  cases hl : AL.lookup st.chans a with
  | none => rw [hl] at h; exact .inl ⟨rfl, h⟩
  | some c => rw [hl] at h; exact .inr ⟨c, rfl, h⟩

-- Proved here and not in `TrackerSim`: unfolding `step` in this module has Lean derive its sixteen equations once, and the
-- modules downstream, which do not import one another, all find them made.
theorem sim_me {st : St} {S : S} (r : R st S) : Sim st S .me := by
  unfold Sim
  simp only [Go.Tracker.step, Spec.Tracker.step]
  exact ⟨r, nickSnap_sim r r.2.me⟩

theorem R_nickAttr {st : St} {S : S} (r : R st S) {a : Bytes} {i : Id} (h : AL.lookup st.nicks a = some i)
    (o' : NickObj) (hnick : o'.nick = (getN st i).nick) (hchans : o'.chans = (getN st i).chans) :
    R (setN st i o') { S with nicks := AL.insert S.nicks a (absN o') } := by
  obtain ⟨w, ab⟩ := r
  have nchans := getN_setN_same NickObj.chans hchans
  refine ⟨w.of_sameSkel rfl rfl rfl (Nat.le_refl _) (fun j _ => getN_setN_same NickObj.nick hnick j) (fun j _ => nchans j)
    (fun _ _ => rfl) (fun _ _ => rfl) (fun _ _ => rfl), ?_⟩
  constructor
  · intro b
    simp only [lookup_insert, setN_nicks, getN_setN]
    split
    · subst_vars; simp [h]
    · rename_i hne
      rw [ab.nicks]
      exact Option.map_congr fun j hb => by rw [if_neg fun hij : i = j => hne (w.nick_inj h (hij ▸ hb))]
  · exact ab.chans
  · intro cn b
    simp only [setN_nicks, setN_chans, nchans]
    exact ab.mem cn b
  · exact ab.mem_nodup
  · exact ab.me
  · exact ab.chan_keys

theorem R_chanAttr {st : St} {S : S} (r : R st S) {a : Bytes} {c : Id} (h : AL.lookup st.chans a = some c)
    (o' : ChanObj) (hname : o'.name = (getC st c).name) (hnicks : o'.nicks = (getC st c).nicks)
    (hlookup : o'.lookup = (getC st c).lookup) :
    R (setC st c o') { S with chans := AL.insert S.chans a (absC o') } := by
  obtain ⟨w, ab⟩ := r
  refine ⟨w.of_sameSkel rfl rfl rfl (Nat.le_refl _) (fun _ _ => rfl) (fun _ _ => rfl)
    (fun j _ => getC_setC_same ChanObj.name hname j) (fun j _ => getC_setC_same ChanObj.nicks hnicks j)
    (fun j _ => getC_setC_same ChanObj.lookup hlookup j), ?_⟩
  constructor
  · exact ab.nicks
  · intro b
    simp only [lookup_insert, setC_chans, getC_setC]
    split
    · subst_vars; simp [h]
    · rename_i hne
      rw [ab.chans]
      exact Option.map_congr fun j hb => by rw [if_neg fun hcj : c = j => hne (w.chan_inj h (hcj ▸ hb))]
  · intro cn b
    exact ab.mem cn b
  · exact ab.mem_nodup
  · exact ab.me
  · have : a ∈ AL.keys S.chans := by
      rw [← has_iff_mem_keys, ab.has_chans, has_eq, h]; rfl
    simp only [keys_insert, this, if_true]
    exact ab.chan_keys

theorem R_setP {st : St} {S : S} (r : R st S) {cn a : Bytes} {c i cell : Id}
    (hc : AL.lookup st.chans cn = some c) (hi : AL.lookup st.nicks a = some i)
    (hcell : AL.lookup (getN st i).chans c = some cell) (p : ChanPrivs) :
    R (setP st cell p) { S with mem := AL.insert S.mem (cn, a) p } := by
  obtain ⟨w, ab⟩ := r
  refine ⟨w.of_sameSkel rfl rfl rfl (Nat.le_refl _) (fun _ _ => rfl) (fun _ _ => rfl) (fun _ _ => rfl) (fun _ _ => rfl)
    (fun _ _ => rfl), ?_⟩
  constructor
  · exact ab.nicks
  · exact ab.chans
  · intro dn b
    simp only [lookup_insert, setP_nicks, setP_chans, getN_setP, Prod.mk.injEq]
    split
    · rename_i heq; obtain ⟨h1, h2⟩ := heq; subst h1 h2
      simp [hc, hi, hcell]
    · rename_i hne
      rw [ab.mem]
      refine Option.bind_congr fun d hd => Option.bind_congr fun j hb => Option.map_congr fun cell' hx => ?_
      rw [getP_setP, if_neg]
      rintro rfl
      obtain ⟨rfl, rfl⟩ := w.cell_inj i (w.liveN hi) j (w.liveN hb) c d cell hcell hx
      exact hne ⟨w.chan_inj hc hd, w.nick_inj hi hb⟩
  · exact nodup_insert ab.mem_nodup _ _
  · exact ab.me
  · exact ab.chan_keys

end Spec.Tracker
