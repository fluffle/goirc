import Goirc.Model.Client
/-!
# The client model's own lemmas

What the tracker helpers leave alone, what REGISTER queues and two handlers keep, a case principle for each of the two
handler tables (`intHandler_cases`, `stHandler_cases`), and `dispatchInternal` as its two stages (`dispatchInternal_eq`).
-/
namespace Go.Client
open Go Go.Tracker

theorem refreshMe_newNick (c : Client) : (refreshMe c).newNick = c.newNick := by
  unfold refreshMe; split <;> rfl
theorem refreshMe_ext (c : Client) : (refreshMe c).ext = c.ext := by
  unfold refreshMe; split <;> rfl
theorem refreshMe_cmd (c : Client) : (refreshMe c).cfg.cmd = c.cfg.cmd := by
  unfold refreshMe; split <;> rfl
theorem refreshMe_st (c : Client) : (refreshMe c).st = c.st := by
  unfold refreshMe; split <;> simp [*]

@[simp] theorem tk_st_none (c : Client) (o : Op) (h : c.st = none) : (tk c o).1 = c := by
  simp [tk, h]

theorem tk_st_isSome (c : Client) (o : Op) : (tk c o).1.st.isSome = c.st.isSome := by
  unfold tk; split <;> simp [*]

theorem tk_some {c : Client} {st : St} (h : c.st = some st) (op : Op) :
    tk c op = ({ c with st := some (Go.Tracker.step st op).1 }, (Go.Tracker.step st op).2) := by
  simp only [tk, h]

theorem tk_answer {c : Client} {st : St} (hst : c.st = some st) {q : Op} {r : Ret} (e : Go.Tracker.step st q = (st, r)) :
    tk c q = (c, r) := by
  rw [tk_some hst, e]
  cases c; cases hst; rfl

theorem h_REGISTER_out (c : Client) (l : Line) :
    (h_REGISTER c l).out =
      (if c.cfg.capNeg then emit c (.cap CAP_LS []) else []) ++
      (if c.cfg.pass != [] then emit c (.pass c.cfg.pass) else []) ++
      (if c.cfg.meNil then [] else emit c (.nick c.cfg.meNick) ++ emit c (.user c.cfg.meIdent c.cfg.meName)) := by
  unfold h_REGISTER
  cases c.cfg.meNil <;> simp

theorem h_REGISTER_c (c : Client) (l : Line) : (h_REGISTER c l).c = c := by
  unfold h_REGISTER; simp only []; split <;> rfl

theorem h_NICK_st (c : Client) (l : Line) : (h_NICK c l).c.st = c.st := by
  unfold h_NICK
  split
  · rfl
  · split
    · rfl
    · split
      · split <;> rfl
      · rfl

/-- one entry of a table written as a chain of `if ev == k then some a else ..` -/
theorem table_step {α : Type} {P : Bytes → α → Prop} {ev k : Bytes} {a h : α} {e : Option α}
    (hk : P k a) (rest : e = some h → P ev h) (hh : (if ev == k then some a else e) = some h) : P ev h := by
  by_cases hev : (ev == k) = true
  · rw [if_pos hev] at hh
    exact eq_of_beq hev ▸ Option.some.inj hh ▸ hk
  · rw [if_neg hev] at hh
    exact rest hh

/-- one entry of two tables written as parallel chains of `if ev == k then some _ else ..` -/
theorem table_step₂ {α β : Type} {P : Option α → Option β → Prop} {ev k : Bytes} {a : α} {b : β} {e : Option α}
    {f : Option β} (hk : P (some a) (some b)) (rest : P e f) :
    P (if ev == k then some a else e) (if ev == k then some b else f) := by
  by_cases hev : (ev == k) = true
  · rw [if_pos hev, if_pos hev]; exact hk
  · rw [if_neg hev, if_neg hev]; exact rest

theorem intHandler_cases {P : Bytes → (Client → Line → HR) → Prop}
    (hREGISTER : P (lit "register") h_REGISTER) (h001 : P (lit "001") h_001) (h433 : P (lit "433") h_433)
    (hCTCP : P (lit "ctcp") h_CTCP) (hNICK : P (lit "nick") h_NICK) (hPING : P (lit "ping") h_PING)
    (hCAP : P (lit "cap") h_CAP) (h410 : P (lit "410") h_410) (hAUTHENTICATE : P (lit "authenticate") h_AUTHENTICATE)
    (h903 : P (lit "903") h_903) (h904 : P (lit "904") h_904) (h908 : P (lit "908") h_908)
    {ev : Bytes} {h : Client → Line → HR} (hh : intHandler ev = some h) : P ev h :=
  -- each entry is named: leaving the choice to `assumption` would compare the names as byte strings, by evaluation
  table_step hREGISTER (table_step h001 <| table_step h433 <| table_step hCTCP <| table_step hNICK <|
    table_step hPING <| table_step hCAP <| table_step h410 <| table_step hAUTHENTICATE <| table_step h903 <|
    table_step h904 <| table_step h908 (by intro hn; cases hn)) hh

theorem stHandler_cases {P : Bytes → (Client → Line → HR) → Prop}
    (hJOIN : P (lit "join") h_JOIN) (hKICK : P (lit "kick") h_KICK) (hMODE : P (lit "mode") h_MODE)
    (hNICK : P (lit "nick") h_STNICK) (hPART : P (lit "part") h_PART) (hQUIT : P (lit "quit") h_QUIT)
    (hTOPIC : P (lit "topic") h_TOPIC) (h311 : P (lit "311") h_311) (h324 : P (lit "324") h_324)
    (h332 : P (lit "332") h_332) (h352 : P (lit "352") h_352) (h353 : P (lit "353") h_353) (h671 : P (lit "671") h_671)
    {ev : Bytes} {h : Client → Line → HR} (hh : stHandler ev = some h) : P ev h :=
  table_step hJOIN (table_step hKICK <| table_step hMODE <| table_step hNICK <| table_step hPART <|
    table_step hQUIT <| table_step hTOPIC <| table_step h311 <| table_step h324 <| table_step h332 <|
    table_step h352 <| table_step h353 <| table_step h671 (by intro hn; cases hn)) hh

/-- the `intHandlers` stage -/
def dispHead (ev : Bytes) (c : Client) (l : Line) : HR :=
  match intHandler ev with
  | some h => h c l
  | none => { c := c }

/-- the `stHandlers` stage, on the result of the first -/
def dispTail (ev : Bytes) (l : Line) (r1 : HR) : HR :=
  match r1.c.st, stHandler ev with
  | some _, some h =>
    let r2 := h r1.c l
    { c := r2.c, out := r1.out ++ r2.out, panicked := r1.panicked || r2.panicked, connected := r1.connected || r2.connected }
  | _, _ => r1

theorem dispatchInternal_eq (c : Client) (l : Line) :
    dispatchInternal c l = dispTail (toLower c.ext l.cmd) l (dispHead (toLower c.ext l.cmd) c l) := rfl

theorem dispatchInternal_int {c : Client} {l : Line} {h : Client → Line → HR}
    (hi : intHandler (toLower c.ext l.cmd) = some h) (hs : stHandler (toLower c.ext l.cmd) = none) :
    dispatchInternal c l = h c l := by
  rw [dispatchInternal_eq]
  unfold dispHead dispTail
  rw [hi, hs]
  cases (h c l).c.st <;> rfl

end Go.Client
