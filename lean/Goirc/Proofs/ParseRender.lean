import Goirc.Proofs.Line
/-!
# The round trip `parse_render` (C01)

`render m` is `tagPart ++ (srcPart ++ restPart)` (`render_eq`).  For each stage of `parseLine` one lemma says what the stage
returns on its part of the rendered text followed by the rest, as a function of the incoming line (`parseLine_render`,
`parseSource_render`, `parseRest_render`); `ctcpRewrite_baseLine`: the CTCP rewriting of the plain line is the expected line.
`parse_render_of` chains them.
-/
namespace Go
open Spec.Irc

theorem spaceWidth_cons_append (x : UInt8) (a b : Bytes) (h : spaceWidth (x :: a) = 0)
    (hb : ∀ y, b.head? = some y → y < 128) : spaceWidth (x :: (a ++ b)) = 0 := by
  rcases b with _ | ⟨y, b'⟩
  · rwa [List.append_nil]
  -- `spaceWidth` reads three bytes; `y`, below 0x80, is no continuation byte of a space rune
  have hy : ∀ c : UInt8, 128 ≤ c → ¬ y = c := fun c hc e => absurd (e ▸ hb y rfl) (UInt8.not_lt.2 hc)
  rcases a with _ | ⟨c, _ | ⟨d, a'⟩⟩
  · cases b' <;> simpa +decide [spaceWidth, hy] using h
  · simpa +decide [spaceWidth, hy, UInt8.not_le.2 (hb y rfl)] using h
  · exact h

theorem noSpaceRune_cons (x : UInt8) (a : Bytes) :
    noSpaceRune (x :: a) = true ↔ spaceWidth (x :: a) = 0 ∧ noSpaceRune a = true := by
  simp [noSpaceRune]

theorem noSpaceRune_append (a b : Bytes) (ha : noSpaceRune a = true) (hb : noSpaceRune b = true)
    (hh : ∀ y, b.head? = some y → y < 128) : noSpaceRune (a ++ b) = true := by
  induction a with
  | nil => simpa using hb
  | cons x a ih =>
    rw [noSpaceRune_cons] at ha
    rw [List.cons_append, noSpaceRune_cons]
    exact ⟨spaceWidth_cons_append x a b ha.1 hh, ih ha.2⟩

theorem noSpaceRune_low (x : UInt8) (a : Bytes) (hx : x < 128) (hx2 : x ≠ 32) (hx3 : ¬ (9 ≤ x ∧ x ≤ 13))
    (ha : noSpaceRune a = true) : noSpaceRune (x :: a) = true := by
  rw [noSpaceRune_cons]
  refine ⟨?_, ha⟩
  -- an ASCII byte is none of the lead bytes C2 E1 E2 E3
  have h : ∀ c : UInt8, 128 ≤ c → (x == c) = false := fun c hc => by
    simp only [beq_eq_false_iff_ne, ne_eq]; rintro rfl; exact absurd hx (UInt8.not_lt.2 hc)
  simp [spaceWidth, hx2, hx3, h 0xC2 (by decide), h 0xE1 (by decide), h 0xE2 (by decide), h 0xE3 (by decide)]

theorem noSpaceRune_of_print (s : Bytes) (h : ∀ b ∈ s, 32 < b ∧ b < 127) : noSpaceRune s = true := by
  induction s with
  | nil => rfl
  | cons x s ih =>
    have hx := h x (by simp)
    apply noSpaceRune_low _ _ _ _ _ (ih (fun b hb => h b (by simp [hb])))
    · exact UInt8.lt_trans hx.2 (by decide)
    · intro e; subst e; exact absurd hx.1 (by decide)
    · intro e; exact absurd (UInt8.lt_of_lt_of_le hx.1 e.2) (by decide)

theorem spaceWidth_drop (a : Bytes) (ha : noSpaceRune a = true) (i : Nat) : spaceWidth (a.drop i) = 0 := by
  induction a generalizing i with
  | nil => rw [List.drop_nil]; rfl
  | cons x a ih =>
    rw [noSpaceRune_cons] at ha
    cases i with
    | zero => exact ha.1
    | succ i => exact ih ha.2 i

theorem noSpaceRune_not_mem (a : Bytes) (ha : noSpaceRune a = true) : (32 : UInt8) ∉ a := fun h => by
  obtain ⟨l, r, rfl⟩ := List.append_of_mem h
  have := spaceWidth_drop _ ha l.length
  rw [List.drop_left] at this
  simp [spaceWidth] at this

theorem trimSpace_of_noSpaceRune (a : Bytes) (ha : noSpaceRune a = true) : trimSpace a = a := by
  have h0 := spaceWidth_drop a ha
  have hl : trimLeftSpace (a.length + 1) a = a := by
    simp [trimLeftSpace, show spaceWidth a = 0 from h0 0]
  have hr : trimRightSpace (a.length + 1) a = a := by
    simp [trimRightSpace, lastSpaceWidth, h0]
  simp only [trimSpace, hl, hr]

def flushField (cur : Bytes) : List Bytes := if cur.isEmpty then [] else [cur.reverse]

/-- `fields` from the middle of a string, `cur` being the field begun so far (reversed).  The fuel is what `fields` starts
with: every step below consumes one byte, so it stays of this form -/
def fieldsFrom (s cur : Bytes) : List Bytes := fieldsAux (s.length + 1) s cur

theorem fieldsFrom_nil (cur : Bytes) : fieldsFrom [] cur = flushField cur := by
  simp [fieldsFrom, fieldsAux, flushField]

theorem fieldsFrom_token (p rest cur : Bytes) (hp : noSpaceRune p = true)
    (hh : ∀ y, rest.head? = some y → y < 128) :
    fieldsFrom (p ++ rest) cur = fieldsFrom rest (p.reverse ++ cur) := by
  induction p generalizing cur with
  | nil => rfl
  | cons x p ih =>
    rw [noSpaceRune_cons] at hp
    have h0 := spaceWidth_cons_append x p rest hp.1 hh
    rw [fieldsFrom, List.cons_append, List.length_cons, fieldsAux]
    simp only [h0, beq_self_eq_true, if_true]
    rw [← fieldsFrom, ih _ hp.2]
    simp

theorem fieldsFrom_space (rest cur : Bytes) : fieldsFrom (32 :: rest) cur = flushField cur ++ fieldsFrom rest [] := by
  have h1 : spaceWidth (32 :: rest) = 1 := by simp [spaceWidth]
  simp only [fieldsFrom, List.length_cons, fieldsAux, h1, flushField]
  cases cur <;> simp

theorem fieldsFrom_spaces (k : Nat) (rest cur : Bytes) :
    fieldsFrom (List.replicate (k + 1) 32 ++ rest) cur = flushField cur ++ fieldsFrom rest [] := by
  induction k generalizing cur with
  | zero => exact fieldsFrom_space rest cur
  | succ k ih => rw [List.replicate_succ, List.cons_append, fieldsFrom_space, ih]; rfl

theorem middleOk_spec (p : Bytes) (h : middleOk p = true) : p ≠ [] ∧ p.head? ≠ some 58 ∧ noSpaceRune p = true := by
  simpa [middleOk, and_assoc] using h

theorem renderMiddles_head (ms : List (Nat × Bytes)) (k : Nat) :
    ∀ y, (renderMiddles ms ++ List.replicate k 32).head? = some y → y < 128 := by
  intro y hy
  -- what follows is empty or begins with a space
  have : y = 32 := by
    rcases ms with _ | ⟨⟨j, p⟩, ms⟩
    · cases k <;> simp_all [renderMiddles, List.replicate_succ]
    · simp_all [renderMiddles, List.replicate_succ]
  subst this; decide

theorem fieldsFrom_middles (ms : List (Nat × Bytes)) (k : Nat) (cur : Bytes)
    (hms : ms.all (fun p => middleOk p.2) = true) :
    fieldsFrom (renderMiddles ms ++ List.replicate k 32) cur = flushField cur ++ ms.map (·.2) := by
  induction ms generalizing cur with
  | nil =>
    cases k with
    | zero => simp [renderMiddles, fieldsFrom_nil]
    | succ k => simpa [renderMiddles, fieldsFrom_nil, flushField] using fieldsFrom_spaces k [] cur
  | cons m ms ih =>
    obtain ⟨j, p⟩ := m
    rw [List.all_cons, Bool.and_eq_true] at hms
    obtain ⟨hne, -, hsp⟩ := middleOk_spec p hms.1
    rw [renderMiddles, List.append_assoc, List.append_assoc, fieldsFrom_spaces,
      fieldsFrom_token _ _ _ hsp (renderMiddles_head ms k), ih _ hms.2]
    simp [flushField, hne]

theorem fields_verb_middles (verb : Bytes) (ms : List (Nat × Bytes)) (k : Nat)
    (hv : noSpaceRune verb = true) (hv2 : verb ≠ [])
    (hms : ms.all (fun p => middleOk p.2) = true) :
    fields (verb ++ (renderMiddles ms ++ List.replicate k 32)) = verb :: ms.map (·.2) := by
  rw [fields, ← fieldsFrom, fieldsFrom_token _ _ _ hv (renderMiddles_head ms k), fieldsFrom_middles _ _ _ hms]
  simp [flushField, hv2]

/-- a name that can stand as the nick of a source and as a parameter (33 is `!`, 58 `:`, 64 `@`); `Props.C17.nickName` unfolds to it -/
def SaneName (n : Bytes) : Prop := n ≠ [] ∧ ∀ b ∈ n, 33 < b ∧ b < 127 ∧ b ≠ 58 ∧ b ≠ 64

theorem SaneName.print {n : Bytes} (h : SaneName n) : ∀ b ∈ n, 32 < b ∧ b < 127 := fun b hb =>
  ⟨UInt8.lt_trans (by decide) (h.2 b hb).1, (h.2 b hb).2.1⟩

theorem SaneName.not_mem {n : Bytes} (h : SaneName n) (b : UInt8) (hb : b ≤ 33 ∨ b = 58 ∨ b = 64) : b ∉ n := by
  intro hm
  have := h.2 b hm
  rcases hb with hb | hb | hb
  · exact absurd (UInt8.lt_of_lt_of_le this.1 hb) (UInt8.lt_irrefl _)
  · exact this.2.2.1 hb
  · exact this.2.2.2 hb

theorem verbOk_sane (v : Bytes) (h : verbOk v = true) : SaneName v := by
  have hb : ∀ b : UInt8, (isLetter b || isDigit b) = true → 33 < b ∧ b < 127 ∧ b ≠ 58 ∧ b ≠ 64 := by
    intro b hb
    simp only [isLetter, isDigit] at hb
    grind
  simp only [verbOk, Bool.or_eq_true, Bool.and_eq_true, Bool.not_eq_true', List.isEmpty_eq_false_iff, beq_iff_eq,
    List.all_eq_true] at h
  rcases h with ⟨h1, h2⟩ | ⟨h1, h2⟩
  · exact ⟨h1, fun b hm => hb b (by simp [h2 b hm])⟩
  · exact ⟨by intro e; simp [e] at h1, fun b hm => hb b (by simp [h2 b hm])⟩

/-- no occurrence of `" :"` in `s` (a final space is fine) -/
def noSC : Bytes → Bool
  | [] => true
  | x :: rest => !(x == 32 && rest.head? == some 58) && noSC rest

theorem indexFrom_sc_skip (a b : Bytes) (i : Nat) (h : noSC a = true) (hb : b.head? ≠ some 58) :
    indexFrom [32, 58] (a ++ b) i = indexFrom [32, 58] b (i + a.length) := by
  induction a generalizing i with
  | nil => rfl
  | cons x a ih =>
    simp only [noSC, Bool.and_eq_true, Bool.not_eq_true'] at h
    have hp : hasPrefix (x :: (a ++ b)) [32, 58] = false := by
      cases a with
      | nil => cases b <;> simp_all [hasPrefix]
      | cons y a' => simpa [hasPrefix] using h.1
    rw [List.cons_append, indexFrom, if_neg (by simp [hp]), ih (i + 1) h.2, List.length_cons]
    congr 1; omega

/-- the trailing parameter on the wire -/
def trPart : Option Bytes → Bytes
  | none => []
  | some t => 32 :: 58 :: t

theorem restArgs_append (a : Bytes) (tr : Option Bytes) (h : noSC a = true) :
    restArgs (a ++ trPart tr) = fields a ++ tr.toList := by
  cases tr with
  | none =>
    have := indexFrom_sc_skip a [] 0 h (by simp)
    rw [List.append_nil] at this
    simp [trPart, restArgs, cut, index, this, indexFrom]
  | some t =>
    have := indexFrom_sc_skip a (32 :: 58 :: t) 0 h (by simp)
    simp [trPart, restArgs, cut, index, this, indexFrom, hasPrefix]

theorem noSC_space (y : Bytes) (h : noSC y = true) (hh : y.head? ≠ some 58) : noSC (32 :: y) = true := by
  simp [noSC, h, hh]

theorem noSC_append_left (p y : Bytes) (hp : (32 : UInt8) ∉ p) (h : noSC y = true) : noSC (p ++ y) = true := by
  induction p with
  | nil => simpa using h
  | cons x p ih =>
    have hx : x ≠ 32 := (List.ne_of_not_mem_cons hp).symm
    simp [noSC, hx, ih (List.not_mem_of_not_mem_cons hp)]

theorem noSC_spaces (j : Nat) (y : Bytes) (h : noSC y = true) (hh : y.head? ≠ some 58) :
    noSC (List.replicate (j + 1) 32 ++ y) = true := by
  induction j with
  | zero => simpa using noSC_space y h hh
  | succ j ih =>
    rw [List.replicate_succ, List.cons_append]
    apply noSC_space _ ih
    simp [List.replicate_succ]

theorem noSC_middles (ms : List (Nat × Bytes)) (k : Nat)
    (hms : ms.all (fun p => middleOk p.2) = true) :
    noSC (renderMiddles ms ++ List.replicate k 32) = true := by
  induction ms with
  | nil =>
    cases k with
    | zero => rfl
    | succ k => simpa [renderMiddles] using noSC_spaces k [] rfl (by simp)
  | cons m ms ih =>
    obtain ⟨j, p⟩ := m
    rw [List.all_cons, Bool.and_eq_true] at hms
    obtain ⟨hne, hhd, hsp⟩ := middleOk_spec p hms.1
    simp only [renderMiddles, List.append_assoc]
    refine noSC_spaces _ _ (noSC_append_left _ _ (noSpaceRune_not_mem p hsp) (ih hms.2)) ?_
    cases p with
    | nil => exact absurd rfl hne
    | cons x p => exact hhd

def trailingPart (tr : Option (Nat × Bytes)) : Bytes := List.replicate (tr.elim 0 (·.1)) 32 ++ trPart (tr.map (·.2))

theorem restArgs_render (verb : Bytes) (ms : List (Nat × Bytes)) (tr : Option (Nat × Bytes))
    (hv : verbOk verb = true) (hms : ms.all (fun p => middleOk p.2) = true) :
    restArgs (verb ++ (renderMiddles ms ++ trailingPart tr)) = verb :: (ms.map (·.2) ++ (tr.map (·.2)).toList) := by
  have hs := verbOk_sane verb hv
  rw [trailingPart, ← List.append_assoc (renderMiddles ms), ← List.append_assoc verb,
    restArgs_append _ _ (noSC_append_left _ _ (hs.not_mem 32 (by decide)) (noSC_middles ms _ hms)),
    fields_verb_middles verb ms _ (noSpaceRune_of_print verb hs.print) hs.1 hms]
  rfl

theorem trimByte_ctcp (v t : Bytes) (hv : (1 : UInt8) ∉ v) (ht : (1 : UInt8) ∉ t) :
    trimByte 1 (1 :: (v ++ 32 :: t) ++ [1]) = v ++ 32 :: t :=
  List.trim_append (· == 1) [1] (v ++ 32 :: t) [1] (by simp) (by simp) fun x hx =>
    beq_false_of_ne (by rintro rfl; simp [hv, ht] at hx)

theorem ctcpParts_some (p v t : Bytes) (h : ctcpParts p = some (v, t)) :
    p = 1 :: (v ++ 32 :: t) ++ [1] ∧ (32 : UInt8) ∉ v ∧ (1 : UInt8) ∉ v ∧ (1 : UInt8) ∉ t := by
  unfold ctcpParts at h
  split at h
  · rename_i rest
    split at h
    · rename_i hl
      simp only at h
      split at h
      · rename_i i hi
        split at h
        · rename_i hc
          simp only [Option.some.injEq, Prod.mk.injEq] at h
          obtain ⟨rfl, rfl⟩ := h
          obtain ⟨h1, h2⟩ := indexByte_some _ _ _ hi
          have h3 := List.dropLast_of_getLast? _ _ hl
          simp only [Bool.and_eq_true, Bool.not_eq_true', List.contains_eq_mem, decide_eq_false_iff_not] at hc
          refine ⟨?_, h1, hc.1.2, hc.2⟩
          rw [← h2, List.cons_append, ← h3]
        · simp at h
      · simp at h
    · simp at h
  · simp at h

def baseLine (m : Msg) : Line := {
    tags := m.tags.map expectedTags
    raw := render m
    src := match m.source with | none => [] | some s => s.render
    nick := match m.source with | some (.user n _ _) => n | _ => []
    ident := match m.source with | some (.user _ u _) => u | _ => []
    host := match m.source with | some (.user _ _ h) => h | some (.server n) => n | none => []
    cmd := toUpperAscii m.verb
    args := params m }

def ctcpWf (verb : Bytes) (ps : List Bytes) : Bool :=
  if isMsgVerb verb then
    match ps with
    | _ :: p1 :: _ => !looksCtcp p1 || (ctcpParts p1).isSome
    | _ => true
  else true

/-- what the CTCP block of `ParseLine` computes from a payload of the clean shape -/
theorem cut_trim_ctcpParts (p v t : Bytes) (h : ctcpParts p = some (v, t)) :
    cut (trimByte 1 p) [32] = (v, some t) := by
  obtain ⟨rfl, h32, h1v, h1t⟩ := ctcpParts_some _ _ _ h
  rw [trimByte_ctcp v t h1v h1t, cut_append_single 32 v t h32]

/-- `expected` and `ctcpCmdArgs` make the same tests in the same order; they differ in how the payload is taken apart -/
theorem ctcpRewrite_baseLine (ext : UnicodeExt) (m : Msg) (h : ctcpWf m.verb (params m) = true) :
    ctcpRewrite ext (baseLine m) = expected ext m := by
  unfold ctcpWf at h
  unfold expected ctcpRewrite ctcpCmdArgs baseLine
  simp only
  generalize params m = ps at h ⊢
  have e : (toUpperAscii m.verb == PRIVMSG || toUpperAscii m.verb == NOTICE) = isMsgVerb m.verb := rfl
  rw [e]
  cases hm : isMsgVerb m.verb with
  | false => rfl
  | true =>
    simp only [hm, if_true] at h ⊢
    match ps, h with
    | [], _ => rfl
    | [_], _ => rfl
    | p0 :: p1 :: more, h =>
      simp only at h ⊢
      have e2 : (decide (p1.length > 2) && hasPrefix p1 [1] && hasSuffix p1 [1]) = looksCtcp p1 := rfl
      rw [e2]
      cases hl : looksCtcp p1 with
      | false => rfl
      | true =>
        simp only [hl, Bool.not_true, Bool.false_or, if_true] at h ⊢
        obtain ⟨⟨v, t⟩, hvt⟩ := Option.isSome_iff_exists.1 h
        rw [hvt, cut_trim_ctcpParts _ _ _ hvt]
        by_cases hc : (toUpper ext v == ACTION && toUpperAscii m.verb == PRIVMSG) = true
        · simp only [if_pos hc]
          simp only [Bool.and_eq_true, beq_iff_eq] at hc
          rw [hc.1]; rfl
        · simp only [if_neg hc]; rfl

theorem parseUserHost_server (n : Bytes) (h : (Source.server n).wf = true) : parseUserHost n = none := by
  simp only [Source.wf, Bool.and_eq_true] at h
  obtain ⟨⟨h1, h2⟩, h3⟩ := h
  simp only [parseUserHost, trimSpace_of_noSpaceRune n h2]
  split
  · rename_i i j hi hj
    rw [hi, hj] at h3
    simp only [decide_eq_true_eq] at h3
    simp [h3]
  · rfl

theorem source_noSpaceRune (s : Source) (h : s.wf = true) : noSpaceRune s.render = true := by
  cases s with
  | server n =>
    simp only [Source.wf, Bool.and_eq_true] at h
    exact h.1.2
  | user n u hh =>
    simp only [Source.wf, Bool.and_eq_true] at h
    obtain ⟨⟨⟨⟨⟨hn, hu⟩, hh'⟩, _⟩, _⟩, _⟩ := h
    rw [show (Source.user n u hh).render = n ++ 33 :: (u ++ 64 :: hh) by simp [Source.render]]
    apply noSpaceRune_append _ _ hn
    · apply noSpaceRune_low _ _ (by decide) (by decide) (by decide)
      apply noSpaceRune_append _ _ hu
      · exact noSpaceRune_low _ _ (by decide) (by decide) (by decide) hh'
      · intro y hy; simp at hy; subst hy; decide
    · intro y hy; simp at hy; subst hy; decide

theorem parseUserHost_user (n u h : Bytes) (hw : (Source.user n u h).wf = true) :
    parseUserHost (Source.user n u h).render = some (n, u, h) := by
  have hsp := source_noSpaceRune _ hw
  simp only [Source.wf, Bool.and_eq_true, Bool.not_eq_true', List.contains_eq_mem,
    decide_eq_false_iff_not] at hw
  obtain ⟨⟨⟨-, h4⟩, h5⟩, h6⟩ := hw
  have e : (Source.user n u h).render = n ++ 33 :: (u ++ 64 :: h) := by simp [Source.render]
  rw [e] at hsp ⊢
  have e2 : n ++ 33 :: (u ++ 64 :: h) = (n ++ 33 :: u) ++ 64 :: h := by simp
  have i1 : indexByte (n ++ 33 :: (u ++ 64 :: h)) 33 = some n.length := indexByte_append _ _ _ h4
  have i2 : indexByte (n ++ 33 :: (u ++ 64 :: h)) 64 = some (n ++ 33 :: u).length := by
    rw [e2]; apply indexByte_append
    simp only [List.mem_append, List.mem_cons, not_or]
    exact ⟨h5, by decide, h6⟩
  simp only [parseUserHost, trimSpace_of_noSpaceRune _ hsp, i1, i2]
  have : ¬ ((n ++ 33 :: u).length < n.length) := by simp
  simp only [this, if_false, Option.some.injEq, Prod.mk.injEq]
  refine ⟨by simp, ?_, ?_⟩
  · rw [e2, List.take_left']
    · simp
    · rfl
  · have e3 : n ++ 33 :: (u ++ 64 :: h) = (n ++ 33 :: u ++ [64]) ++ h := by simp
    rw [e3]
    apply List.drop_left'
    simp only [List.length_append, List.length_cons, List.length_nil]

theorem keyOk_spec (k : Bytes) (h : keyOk k = true) :
    k ≠ [] ∧ (59 : UInt8) ∉ k ∧ (61 : UInt8) ∉ k ∧ (32 : UInt8) ∉ k ∧ (92 : UInt8) ∉ k := by
  simp only [keyOk, Bool.and_eq_true, Bool.not_eq_true', List.isEmpty_eq_false_iff, List.all_eq_true,
    bne_iff_ne, ne_eq] at h
  obtain ⟨h1, h2⟩ := h
  exact ⟨h1, fun e => (h2 _ e).1.1.1 rfl, fun e => (h2 _ e).1.1.2 rfl, fun e => (h2 _ e).1.2 rfl,
    fun e => (h2 _ e).2 rfl⟩

theorem renderTags_not_mem (ts : List (Bytes × Option Bytes)) (h : ts.all (fun t => keyOk t.1) = true) :
    ∀ t' ∈ ts.map renderTag, (32 : UInt8) ∉ t' ∧ (59 : UInt8) ∉ t' := by
  intro t' ht'
  obtain ⟨⟨k, v⟩, ha, rfl⟩ := List.mem_map.1 ht'
  obtain ⟨_, h59, _, h32, _⟩ := keyOk_spec k (List.all_eq_true.1 h _ ha)
  cases v with
  | none => exact ⟨h32, h59⟩
  | some v =>
    simp only [renderTag, List.mem_append, List.mem_singleton, not_or]
    exact ⟨⟨⟨h32, by decide⟩, (escapeTag_not_mem v).1⟩, ⟨h59, by decide⟩, (escapeTag_not_mem v).2⟩

theorem unescapeTag_append_left (k r : Bytes) (h : (92 : UInt8) ∉ k) : unescapeTag (k ++ r) = k ++ unescapeTag r := by
  induction k with
  | nil => rfl
  | cons x k ih =>
    rw [List.cons_append, unescapeTag_cons_ne _ _ (List.ne_of_not_mem_cons h).symm, ih (List.not_mem_of_not_mem_cons h),
      List.cons_append]

theorem addTag_render (m : List (Bytes × Bytes)) (t : Bytes × Option Bytes) (h : keyOk t.1 = true) :
    addTag m (renderTag t) = mapInsert m t.1 (t.2.getD []) := by
  obtain ⟨k, v⟩ := t
  obtain ⟨hne, _, h61, _, h92⟩ := keyOk_spec k h
  cases v with
  | none =>
    have hu : unescapeTag k = k := by simpa [unescapeTag] using unescapeTag_append_left k [] h92
    simp only [addTag, renderTag, hu, cut_not_mem_single 61 k h61]
    simp [hne]
  | some v =>
    have hu : unescapeTag (k ++ [61] ++ escapeTag v) = k ++ 61 :: v := by
      rw [List.append_assoc, unescapeTag_append_left _ _ h92, List.singleton_append,
        unescapeTag_cons_ne _ _ (by decide), unescape_escape]
    simp only [addTag, renderTag, hu, cut_append_single 61 k v h61]
    simp [hne]

theorem parseTags_render (ts : List (Bytes × Option Bytes)) (h : ts.all (fun t => keyOk t.1) = true) :
    parseTags (join [59] (ts.map renderTag)) = expectedTags ts := by
  have hfold : ∀ (l : List (Bytes × Option Bytes)) (acc : List (Bytes × Bytes)),
      l.all (fun t => keyOk t.1) = true →
      (l.map renderTag).foldl addTag acc = l.foldl (fun m t => mapInsert m t.1 (t.2.getD [])) acc := by
    intro l
    induction l with
    | nil => intros; rfl
    | cons t l ih =>
      intro acc hl
      simp only [List.all_cons, Bool.and_eq_true] at hl
      simp only [List.map_cons, List.foldl_cons, addTag_render acc t hl.1, ih _ hl.2]
  unfold parseTags expectedTags
  cases ts with
  | nil => rfl
  | cons t ts =>
    rw [List.map_cons, splitByte_join, ← List.map_cons, hfold _ _ h]
    exact fun t' ht' => (renderTags_not_mem (t :: ts) h t' ht').2

theorem tagText_not_mem (ts : List (Bytes × Option Bytes)) (h : ts.all (fun t => keyOk t.1) = true) :
    (32 : UInt8) ∉ join [59] (ts.map renderTag) :=
  join_not_mem _ _ _ (fun t' ht' => (renderTags_not_mem ts h t' ht').1) (by decide)

theorem parseSource_colon (ext : UnicodeExt) (l : Line) (src rest : Bytes) (h : (32 : UInt8) ∉ src) :
    parseSource ext l (58 :: (src ++ 32 :: rest)) = parseRest ext (withSource l src) rest := by
  have hi : indexByte (58 :: (src ++ 32 :: rest)) 32 = some (src.length + 1) := by
    have := indexByte_append 32 (58 :: src) rest (by simp only [List.mem_cons, not_or]; exact ⟨by decide, h⟩)
    simpa using this
  simp only [parseSource, hi]
  simp

theorem parseSource_plain (ext : UnicodeExt) (l : Line) (s : Bytes) (h : s.head? ≠ some 58) :
    parseSource ext l s = parseRest ext l s := by
  cases s with
  | nil => rfl
  | cons x s => rw [parseSource_cons, if_neg (by simpa using h)]

theorem parseLine_at (ext : UnicodeExt) (tags rest : Bytes) (h : (32 : UInt8) ∉ tags) :
    parseLine ext (64 :: (tags ++ 32 :: rest)) =
      parseSource ext { raw := 64 :: (tags ++ 32 :: rest), tags := some (parseTags tags) } rest := by
  have hi : indexByte (64 :: (tags ++ 32 :: rest)) 32 = some (tags.length + 1) := by
    have := indexByte_append 32 (64 :: tags) rest (by simp only [List.mem_cons, not_or]; exact ⟨by decide, h⟩)
    simpa using this
  simp only [parseLine, hi]
  simp

theorem parseLine_plain (ext : UnicodeExt) (s : Bytes) (h : s.head? ≠ some 64) :
    parseLine ext s = parseSource ext { raw := s } s := by
  cases s with
  | nil => rfl
  | cons x s => rw [parseLine_cons, if_neg (by simpa using h)]

def restPart (m : Msg) : Bytes := m.verb ++ (renderMiddles m.middles ++ trailingPart m.trailing)

def srcPart : Option Source → Bytes
  | none => []
  | some s => 58 :: (s.render ++ 32 :: [])

def tagPart : Option (List (Bytes × Option Bytes)) → Bytes
  | none => []
  | some ts => 64 :: (join [59] (ts.map renderTag) ++ 32 :: [])

theorem render_eq (m : Msg) : render m = tagPart m.tags ++ (srcPart m.source ++ restPart m) := by
  unfold render restPart
  cases m.tags <;> cases m.source <;> rcases m.trailing with _ | ⟨k, t⟩ <;>
    simp [tagPart, srcPart, trailingPart, trPart, List.append_assoc]

theorem params_eq (m : Msg) : params m = m.middles.map (·.2) ++ (m.trailing.map (·.2)).toList := by
  unfold params
  rcases m.trailing with _ | ⟨k, t⟩ <;> rfl

theorem parseRest_render (ext : UnicodeExt) (l : Line) (m : Msg) (hv : verbOk m.verb = true)
    (hms : m.middles.all (fun p => middleOk p.2) = true) :
    parseRest ext l (restPart m) =
      some (ctcpRewrite ext { l with cmd := toUpperAscii m.verb, args := params m }) := by
  have ha : isAscii m.verb = true := List.all_eq_true.2 fun b hb =>
    decide_eq_true (UInt8.lt_trans ((verbOk_sane _ hv).print b hb).2 (by decide))
  unfold parseRest restPart
  rw [restArgs_render _ _ _ hv hms, params_eq]
  simp only [toUpper, ha, if_true]

theorem restPart_head (m : Msg) (hv : verbOk m.verb = true) :
    (restPart m).head? ≠ some 58 ∧ (restPart m).head? ≠ some 64 := by
  have hs := verbOk_sane _ hv
  obtain ⟨x, v, hxv⟩ := List.exists_cons_of_ne_nil hs.1
  have := (hs.2 x (by simp [hxv])).2.2
  rw [restPart, hxv]
  simpa using this

def srcLine (l : Line) : Option Source → Line
  | none => l
  | some (.server n) => { l with src := n, host := n }
  | some (.user n u h) => { l with src := (Source.user n u h).render, nick := n, ident := u, host := h }

theorem withSource_render (l : Line) (s : Source) (h : s.wf = true) : withSource l s.render = srcLine l (some s) := by
  cases s with
  | server n => simp only [withSource, Source.render, parseUserHost_server n h, srcLine]
  | user n u hh => simp only [withSource, parseUserHost_user n u hh h, srcLine]

theorem parseSource_render (ext : UnicodeExt) (l : Line) (src : Option Source) (rest : Bytes)
    (hsrc : ∀ s, src = some s → s.wf = true) (hrest : rest.head? ≠ some 58) :
    parseSource ext l (srcPart src ++ rest) = parseRest ext (srcLine l src) rest := by
  cases src with
  | none => exact parseSource_plain ext l _ hrest
  | some s =>
    have hw := hsrc s rfl
    rw [srcPart, List.cons_append, List.append_assoc, List.cons_append, List.nil_append,
      parseSource_colon ext l _ _ (noSpaceRune_not_mem _ (source_noSpaceRune s hw)), withSource_render l s hw]

theorem parseLine_render (ext : UnicodeExt) (tags : Option (List (Bytes × Option Bytes))) (rest : Bytes)
    (htags : ∀ ts, tags = some ts → ts.all (fun t => keyOk t.1) = true) (hrest : rest.head? ≠ some 64) :
    parseLine ext (tagPart tags ++ rest) =
      parseSource ext { raw := tagPart tags ++ rest, tags := tags.map expectedTags } rest := by
  cases tags with
  | none => exact parseLine_plain ext _ hrest
  | some ts =>
    have hk := htags ts rfl
    rw [tagPart, List.cons_append, List.append_assoc, List.cons_append, List.nil_append,
      parseLine_at ext _ _ (tagText_not_mem ts hk), parseTags_render ts hk]
    rfl

/-- the round trip from the hypotheses it uses: no bound on the number of middle parameters -/
theorem parse_render_of (ext : UnicodeExt) (m : Msg)
    (htags : ∀ ts, m.tags = some ts → ts.all (fun t => keyOk t.1) = true)
    (hsrc : ∀ s, m.source = some s → s.wf = true) (hverb : verbOk m.verb = true)
    (hmid : m.middles.all (fun p => middleOk p.2) = true) (hctcp : ctcpWf m.verb (params m) = true) :
    parseLine ext (render m) = some (expected ext m) := by
  have hhead : (srcPart m.source ++ restPart m).head? ≠ some 64 := by
    cases m.source with
    | none => exact (restPart_head m hverb).2
    | some src => simp [srcPart]
  rw [render_eq, parseLine_render ext _ _ htags hhead, parseSource_render ext _ _ _ hsrc (restPart_head m hverb).1,
    parseRest_render ext _ m hverb hmid, ← render_eq, ← ctcpRewrite_baseLine ext m hctcp, baseLine]
  -- the line the three stages have built is the plain line, source by source
  rcases m.source with _ | ⟨n | ⟨n, u, h⟩⟩ <;> rfl

end Go
