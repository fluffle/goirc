import Goirc.Proofs.C13Ops
import Goirc.Proofs.C13Parse
import Goirc.Proofs.C13InvAuxGround
import Goirc.Proofs.C13Modes
/-!
# C13, JOIN event: the NAMES reply

One word of the reply, rendered from a member, is one step `joinF` of the view's fold (`tName_eq`, an equality of states),
so the words are the fold (`tNames_eq_foldl`), and the fold does not care what `(c, me)` held before (`foldl_joinF_eqv`).
`chunk`, `joinSp` and `splitByte` undo one another, so the 353 lines fed one after the other are `tNames` over all the
words (`feed_353_lines`).
-/
namespace Proofs.C13
open Go Go.Client Go.Tracker Spec.Tracker Spec.Net

theorem joinSp_eq_join : ∀ g : List Bytes, joinSp g = join [32] g
  | [] => rfl
  | [_] => rfl
  | a :: b :: rest => by simp only [joinSp, join, joinSp_eq_join (b :: rest)]

theorem chunk_flatten (k fuel : Nat) (l : List Bytes) : (chunk k fuel l).flatten = l := by
  induction fuel generalizing l with
  | zero => cases l <;> simp [chunk]
  | succ f ih =>
    cases l with
    | nil => simp [chunk]
    | cons a l =>
      simp only [chunk]
      split
      · simp
      · simp [ih]

theorem chunk_ne_nil (k fuel : Nat) (l : List Bytes) (hk : 0 < k) : ∀ g ∈ chunk k fuel l, g ≠ [] := by
  induction fuel generalizing l with
  | zero => cases l <;> simp [chunk]
  | succ f ih =>
    cases l with
    | nil => simp [chunk]
    | cons a l =>
      simp only [chunk]
      split
      · simp
      · intro g hg
        rcases List.mem_cons.1 hg with hg | hg
        · subst hg
          cases k with
          | zero => omega
          | succ k => simp
        · exact ih _ g hg

theorem chunk_mem (k fuel : Nat) (l : List Bytes) : ∀ g ∈ chunk k fuel l, ∀ w ∈ g, w ∈ l := by
  intro g hg w hw
  rw [← chunk_flatten k fuel l]
  exact List.mem_flatten.2 ⟨g, hg, hw⟩

theorem sx_newNick_fresh (S : TS) (n : Bytes) (hn : n ≠ []) (h : AL.has S.nicks n = false) :
    sx S (.newNick n) = { S with nicks := AL.insert S.nicks n {} } := by
  rw [sx_newNick, h, Bool.or_false, if_neg (by simpa using hn)]

theorem sx_associate_fresh (S : TS) (c n : Bytes) (h1 : AL.has S.chans c = true) (h2 : AL.has S.nicks n = true)
    (h3 : AL.has S.mem (c, n) = false) :
    sx S (.associate c n) = { S with mem := AL.insert S.mem (c, n) {} } := by
  rw [sx_associate, h1, h2, h3]; rfl

theorem pfx_cases (p : ChanPrivs) :
    (prefixOf p = [] ∧ highest p = {}) ∨
    ∃ x y, prefixOf p = [x] ∧ prefixMode x = some [43, y] ∧ y ∈ [113, 97, 111, 104, 118] ∧ highest p = applyPriv {} true y := by
  -- `prefixOf` and `highest` ask owner, admin, op, halfOp, voice in this order: the first that holds decides both
  obtain ⟨o, a, op, h, v⟩ := p
  cases o; cases a; cases op; cases h; cases v
  · exact Or.inl ⟨rfl, rfl⟩
  · exact Or.inr ⟨43, 118, rfl, rfl, by decide, rfl⟩
  · exact Or.inr ⟨37, 104, rfl, rfl, by decide, rfl⟩
  · exact Or.inr ⟨64, 111, rfl, rfl, by decide, rfl⟩
  · exact Or.inr ⟨38, 97, rfl, rfl, by decide, rfl⟩
  · exact Or.inr ⟨126, 113, rfl, rfl, by decide, rfl⟩

theorem nickOk_head (m : Bytes) (h : nickOk m = true) : ∃ b tl, m = b :: tl ∧ prefixMode b = none := by
  simp only [nickOk, Bool.and_eq_true] at h
  cases m with
  | nil => simp [nameOk] at h
  | cons b tl =>
    refine ⟨b, tl, rfl, ?_⟩
    have h2 := h.2
    simp only [nickHeadOk, List.head?_cons, List.contains_eq_mem, List.mem_cons, List.not_mem_nil, or_false,
      Bool.not_eq_true', decide_eq_false_iff_not, not_or] at h2
    simp [prefixMode, h2]

/-- the nick and the membership a NAMES word brings, before its prefix is read -/
theorem tName_member (c : Bytes) (A : TS) (m : Bytes) (hne : m ≠ []) (hc : AL.has A.chans c = true)
    (hmem : AL.lookup A.mem (c, m) = none ∨ AL.lookup A.mem (c, m) = some {}) :
    (if sIsOn (if !AL.has A.nicks m then sx A (.newNick m) else A) c m then
        (if !AL.has A.nicks m then sx A (.newNick m) else A)
      else sx (if !AL.has A.nicks m then sx A (.newNick m) else A) (.associate c m)) = addMember c m {} {} A := by
  have e2 : (if !AL.has A.nicks m then sx A (.newNick m) else A) =
      (if AL.has A.nicks m then A else { A with nicks := AL.insert A.nicks m {} }) := by
    cases hn : AL.has A.nicks m
    · exact sx_newNick_fresh A m hne hn
    · rfl
  simp only [e2, addMember]
  generalize hX : (if AL.has A.nicks m then A else { A with nicks := AL.insert A.nicks m {} }) = X
  have hXn : AL.has X.nicks m = true := by
    rw [← hX]; split
    · assumption
    · exact (AL.has_insert ..).trans (by simp)
  have hXc : X.chans = A.chans := by rw [← hX]; split <;> rfl
  have hXm : X.mem = A.mem := by rw [← hX]; split <;> rfl
  have hon : sIsOn X c m = AL.has A.mem (c, m) := by rw [sIsOn, hXn, hXc, hc, hXm]; rfl
  rw [hon]
  rcases hmem with h0 | h0
  · have h1 : AL.has A.mem (c, m) = false := by rw [AL.has_eq, h0]; rfl
    rw [h1, if_neg Bool.false_ne_true, sx_associate_fresh X c m (hXc ▸ hc) hXn (hXm ▸ h1)]
  · have h1 : AL.has A.mem (c, m) = true := by rw [AL.has_eq, h0]; rfl
    rw [h1, if_pos rfl, hXm, AL.insert_of_lookup _ _ _ h0, ← hXm]

theorem addMember_priv (c m : Bytes) (x : SNick) (p : ChanPrivs) (A : TS) :
    addMember c m x p A = { addMember c m x {} A with mem := AL.insert (addMember c m x {} A).mem (c, m) p } := by
  simp only [addMember, AL.insert_insert]

theorem tName_eq (c : Bytes) (A : TS) (m : Bytes) (p : ChanPrivs) (hm : nickOk m = true)
    (hc : AL.has A.chans c = true)
    (hmem : AL.lookup A.mem (c, m) = none ∨ AL.lookup A.mem (c, m) = some {}) :
    tName c A (prefixOf p ++ m) = addMember c m {} (highest p) A := by
  have key := tName_member c A m (nameOk_ne_nil m (nameOk_of_nickOk hm)) hc hmem
  have hM : AL.lookup (addMember c m {} {} A).mem (c, m) = some {} := by rw [addMember_mem, AL.lookup_insert, if_pos rfl]
  rw [addMember_priv]
  rcases pfx_cases p with ⟨hp, hh⟩ | ⟨x, y, hp, hx, hy, hh⟩
  · obtain ⟨b, tl, hb, hpm⟩ := nickOk_head m hm
    rw [hp, hh, AL.insert_of_lookup _ _ _ hM, ← key, List.nil_append]
    subst hb
    simp only [tName, hpm, Option.isSome_none, Bool.false_eq_true, if_false]
  · rw [hp, hh, List.singleton_append]
    simp only [tName, hx, Option.isSome_some, if_true]
    rw [key, sx_channelModes, if_pos (by rw [addMember_chans]; exact hc), parseModes_plus, parseModes_priv _ c true [] hy m [] hM,
      parseModes]

/-- every name is either not on the channel yet, or there without privileges (the client itself, which its JOIN line has
put there) -/
theorem tNames_eq_foldl (c : Bytes) (ms : List (Bytes × ChanPrivs)) :
    ∀ A : TS, (AL.keys ms).Nodup → (∀ m ∈ AL.keys ms, nickOk m = true) → AL.has A.chans c = true →
      (∀ m ∈ AL.keys ms, AL.lookup A.mem (c, m) = none ∨ AL.lookup A.mem (c, m) = some {}) →
      tNames c A (ms.map fun mp => prefixOf mp.2 ++ mp.1) = ms.foldl (joinF c) A := by
  induction ms with
  | nil => intros; rfl
  | cons mp ms ih =>
    obtain ⟨m, p⟩ := mp
    intro A nd ok hc hmem
    simp only [AL.keys_cons, List.nodup_cons] at nd
    simp only [List.map_cons, tNames, List.foldl_cons, joinF]
    rw [tName_eq c A m p (ok m (by simp)) hc (hmem m (by simp))]
    refine ih _ nd.2 (fun x hx => ok x (by simp [hx])) (by rw [addMember_chans]; exact hc) fun x hx => ?_
    have hne : ¬ (c, m) = (c, x) := fun e => nd.1 ((Prod.mk.inj e).2 ▸ hx)
    rw [addMember_mem, AL.lookup_insert, if_neg hne]
    exact hmem x (by simp [hx])

/-- the fold sets `(c, me)` if `me` is among the names: what was there before does not matter -/
theorem foldl_joinF_eqv (c me : Bytes) (ms : List (Bytes × ChanPrivs)) :
    ∀ A B : TS, (∀ k, AL.lookup A.nicks k = AL.lookup B.nicks k) → (∀ k, AL.lookup A.chans k = AL.lookup B.chans k) →
      A.me = B.me → (∀ k, (k = (c, me) → me ∉ AL.keys ms) → AL.lookup A.mem k = AL.lookup B.mem k) →
      Eqv (ms.foldl (joinF c) A) (ms.foldl (joinF c) B) := by
  induction ms with
  | nil => intro A B hn hc hme hm; exact ⟨hn, hc, fun k => hm k (fun _ => by simp), hme⟩
  | cons mp ms ih =>
    obtain ⟨m, p⟩ := mp
    intro A B hn hc hme hm
    simp only [List.foldl_cons, joinF]
    refine ih _ _ (fun k => ?_) (fun k => ?_) ?_ (fun k hk => ?_)
    · rw [addMember_nicks, addMember_nicks, AL.has_congr (hn m), hn]
    · rw [addMember_chans, addMember_chans, hc]
    · rw [addMember_me, addMember_me, hme]
    · rw [addMember_mem, addMember_mem, AL.lookup_insert, AL.lookup_insert]
      split
      · rfl
      · rename_i hne
        refine hm k fun e hmem => ?_
        rcases List.mem_cons.1 hmem with h | h
        · exact hne (by rw [e, h])
        · exact hk e h

theorem tFeed_append (ext : UnicodeExt) (nn : Bytes → Bytes) (a b : List Bytes) :
    ∀ S, tFeed ext nn S (a ++ b) = tFeed ext nn (tFeed ext nn S a) b := by
  induction a with
  | nil => intro S; rfl
  | cons l a ih =>
    intro S
    simp only [List.cons_append, tFeed]
    split <;> exact ih _

theorem stTwin_join : stTwin (lit "join") = some t_JOIN := rfl
theorem stTwin_332 : stTwin (lit "332") = some t_332 := rfl
theorem stTwin_353 : stTwin (lit "353") = some t_353 := rfl
theorem stTwin_366 : stTwin (lit "366") = none := Option.isNone_iff_eq_none.1 (by decide +kernel)

theorem tNames_has_chans (c : Bytes) (ws : List Bytes) : ∀ (S : TS), AL.has S.chans c = true →
    AL.has (tNames c S ws).chans c = true := by
  induction ws with
  | nil => intro S h; exact h
  | cons w ws ih => intro S h; exact ih _ (tName_has_chans c S w h)

theorem tNames_append (c : Bytes) (S : TS) (a b : List Bytes) : tNames c S (a ++ b) = tNames c (tNames c S a) b := by
  simp only [tNames, List.foldl_append]

theorem tNames_split (c : Bytes) (S : TS) (g : List Bytes) (h : ∀ w ∈ g, (32 : UInt8) ∉ w) :
    tNames c S (splitByte 32 [] (joinSp g)) = tNames c S g := by
  cases g with
  | nil => simp [joinSp, splitByte, tNames, tName]
  | cons a g => rw [joinSp_eq_join, splitByte_join 32 a g h]

theorem feed_353_lines (ext : UnicodeExt) (nn : Bytes → Bytes) (me c : Bytes) (hm : nameOk me = true) (hc : nameOk c = true)
    (gs : List (List Bytes)) : ∀ (S : TS), AL.has S.chans c = true → (∀ g ∈ gs, ∀ w ∈ g, (32 : UInt8) ∉ w) →
    tFeed ext nn S (gs.map fun g => srv ++ lit "353 " ++ me ++ lit " = " ++ c ++ lit " :" ++ joinSp g) = tNames c S gs.flatten := by
  induction gs with
  | nil => intro S _ _; rfl
  | cons g gs ih =>
    intro S hS hw
    simp only [List.map_cons, List.flatten_cons]
    obtain ⟨L, -, -, -, hcmd, ha, hf⟩ := (parse_353 ext me c hm hc (joinSp g)).feed nn S (gs.map _)
    rw [hf, tDispatch_353 ext nn _ hcmd]
    have e : t_353 S L = tNames c S g := by
      simp only [t_353, arg, ha, List.getElem?_cons_succ, List.getElem?_cons_zero, hS, if_true, List.getLast?_cons_cons,
        List.getLast?_singleton, Option.getD_some]
      exact tNames_split c S g (hw g (by simp))
    rw [e, ih _ (tNames_has_chans c g S hS) (fun g' hg' => hw g' (by simp [hg'])), tNames_append]

end Proofs.C13
