import Goirc.Model.Life
import Goirc.Proofs.C06
/-!
# C07: a teardown that has begun can always go on, and ends

`Conn` is what the goroutines' side adds to `Proofs.C06.Inv` (wait group, closed socket, watchdog), kept by every `Move`;
from the two, this file's `Inv` (the facts about a state that the theorems of C07 use) holds in every reachable state
(`inv_reach`). Progress: while somebody drains, a teardown step is enabled (`teardown_progress`). Termination: the measure
`(linesLeft, workLeft)` falls with every such step (`work_decreases`, `teardown_acc`).
-/
namespace Proofs.C07
open Go.Life Proofs.Life

/-- program counters at which a thread holds `conn.mu` -/
def holds : TPc → Bool
  | .cLocked | .xLocked _ | .xDrain _ => true
  | _ => false

structure Inv (s : St) : Prop where
  /-- whoever is at a "holds the mutex" program counter is the recorded holder (hence unique) -/
  holder : ∀ t, holds (s.thr t) = true → s.mu = some t
  /-- the wait group counts the goroutines that have not left (`Proofs.Life.WgOk s.g`, in the words of
  `Props.C07.wg_counts_live`) -/
  wg : s.g.wg = (if s.g.recv = .gone then 0 else 1) + (if s.g.send = .gone then 0 else 1) +
         (if s.g.loop = .gone then 0 else 1) + (if s.g.ping = .gone ∨ s.g.ping = .absent then 0 else 1)
  /-- a drainer drains the current generation, with the flag clear, the socket closed, the context cancelled -/
  drain : ∀ t g, s.thr t = .xDrain g →
    g = s.cur ∧ s.connected = false ∧ s.g.sockClosed = true ∧ s.g.cancelled = true
  /-- a goroutine that leaves its loop, and the watchdog, go on into `closeFor` as a thread that was idle (`recvExit t` asks
  for `s.thr t = .idle`): the progress proofs take that thread from here -/
  fin : ∃ N, ∀ t, N ≤ t → s.thr t = .idle

theorem holds_iff (p : TPc) : holds p = true ↔ p = .cLocked ∨ (∃ tg, p = .xLocked tg) ∨ ∃ g, p = .xDrain g := by
  cases p <;> simp [holds]

structure Conn (s : St) : Prop where
  wg : WgOk s.g
  /-- once a connection has been taken down, its socket stays closed and its context cancelled -/
  closed : s.connected = false → 1 ≤ s.cur → s.g.sockClosed = true ∧ s.g.cancelled = true
  fin : ∃ N, ∀ t, N ≤ t → s.thr t = .idle
  /-- once the watchdog of a live connection has fired, a closer for exactly this connection is on its way -/
  wd : s.connected = true → s.g.watch = false →
    ∃ t, s.thr t = .xWant (some s.cur) ∨ s.thr t = .xLocked (some s.cur)

theorem Conn.move {s s' l} (h : Conn s) (hm : Move s l s') : Conn s' where
  wg := by
    cases hm with
    | cSucceed _ _ _ _ _ hw => exact hw
    | leave _ _ _ _ _ k | inner _ _ _ k => exact k.wg h.wg
    | _ => exact h.wg
  closed := by
    cases hm with
    | cSucceed => intro hc; cases hc
    | xBegin => exact fun _ _ => ⟨rfl, rfl⟩
    | leave _ _ _ _ _ k | inner _ _ _ k => exact fun hc h1 => ⟨k.closed (h.closed hc h1).1, k.cancelled (h.closed hc h1).2⟩
    | _ => exact h.closed
  fin := by
    obtain ⟨N, hN⟩ := h.fin
    refine ⟨max N ((tidOf l).getD 0 + 1), fun t ht => ?_⟩
    rw [hm.other t fun e => ?_]
    · exact hN t (Nat.le_trans (Nat.le_max_left ..) ht)
    · rw [e] at ht
      exact Nat.not_succ_le_self t (Nat.le_trans (Nat.le_max_right ..) ht)
  wd := by
    intro hc hw
    have keep : ∀ t p, s.connected = true → s.g.watch = false →
        (s.thr t = .xWant (some s.cur) ∨ s.thr t = .xLocked (some s.cur) →
          p = .xWant (some s.cur) ∨ p = .xLocked (some s.cur)) →
        ∃ u, setThr s t p u = .xWant (some s.cur) ∨ setThr s t p u = .xLocked (some s.cur) := by
      intro t p hc hw hp
      obtain ⟨u, hu⟩ := h.wd hc hw
      by_cases e : u = t
      · exact ⟨u, by simpa [setThr, e] using hp (e ▸ hu)⟩
      · exact ⟨u, by simpa [setThr, e] using hu⟩
    cases hm with
    | connect t ht | close t ht | cRefuse t ht | cLock t ht | cRegister t _ ht | cRet t _ ht | xLock t _ ht
    | xFinish t _ ht | xFire t _ ht | stale t _ _ ht => exact keep t _ hc hw (by simp [ht])
    -- a closer that gives up did not aim at this connection
    | xNoop t tg ht hn =>
      refine keep t _ hc hw fun e => ?_
      have hc : s.connected = true := hc
      obtain ⟨g', rfl, hg⟩ := hn.resolve_left (by simp [hc])
      simp [ht, hg] at e
    | cSucceed _ _ _ _ _ _ hw' => simp [hw'] at hw
    | xBegin => cases hc
    | watchFire t | leave _ t => exact ⟨t, .inl (by simp [setThr])⟩
    | inner _ _ _ k => exact h.wd hc (k.watch.symm.trans hw)

theorem conn_reach {s} (h : Reach s) : Conn s :=
  Reach.inv ⟨rfl, fun _ h => absurd h (by decide), ⟨0, fun _ _ => rfl⟩, fun h => by cases h⟩ Conn.move h

theorem inv_reach {s} (h : Reach s) : Inv s where
  holder t ht := ((C06.invS_reach h).holder t).mpr ((holds_iff _).mp ht)
  wg := (conn_reach h).wg
  drain t g ht := by
    have h6 := C06.invS_reach h
    obtain ⟨rfl, hc⟩ := h6.drainCur t g ht
    exact ⟨rfl, hc, (conn_reach h).closed hc (h6.testedLe _ (h6.closer t _ (.inl ht)).1).1⟩
  fin := (conn_reach h).fin

theorem step_enabled {k : Label → Bool} {s : St} (l : Label) (hl : k l = true) (h : (step s l).isSome = true) :
    ∃ l s', k l = true ∧ step s l = some s' := by
  cases hs : step s l with
  | none => simp [hs] at h
  | some s' => exact ⟨l, s', hl, hs⟩

theorem teardown_progress {s : St} (h : Reach s) (hd : Draining s) :
    ∃ l s', isTeardown l = true ∧ step s l = some s' := by
  have inv := inv_reach h
  obtain ⟨t, g, ht⟩ := hd
  obtain ⟨-, -, hsock, hcan⟩ := inv.drain t g ht
  obtain ⟨N, hN⟩ := inv.fin
  have hidle : s.thr N = .idle := hN N (Nat.le_refl _)
  -- a goroutine that waits for room in the output queue gets it: the queue has room, or the drainer makes some
  -- (`cap` is the literal 32 in Model/Life; all that is used of it, here and below, is `0 < cap`)
  have out (l : Label) (hl : isTeardown l = true) (hs : s.g.outQ < cap → (step s l).isSome = true) :
      ∃ l s', isTeardown l = true ∧ step s l = some s' := by
    by_cases ho : s.g.outQ < cap
    · exact step_enabled l hl (hs ho)
    · have : s.g.outQ > 0 := by simp [cap] at ho; omega
      exact step_enabled (.xDrainOut t) rfl (by simp [step, ht, this])
  -- the first goroutine that has not left can move; if all have, the drainer can finish
  cases hr : s.g.recv with
  | reading =>
    by_cases ha : s.g.avail = 0
    · exact step_enabled (.recvExit N) rfl (by simp [step, hr, ha, hsock, hidle])
    · exact step_enabled (.recvTake) rfl (by simp [step, hr]; omega)
  | holding =>
    by_cases ho : s.g.inQ < cap
    · exact step_enabled (.recvPut) rfl (by simp [step, hr, ho])
    · have : s.g.inQ > 0 := by simp [cap] at ho; omega
      exact step_enabled (.xDrainIn t) rfl (by simp [step, ht, this])
  | gone =>
  cases hsd : s.g.send with
  | idle => exact step_enabled (.sendCancel N) rfl (by simp [step, hsd, hcan, hidle])
  | writing => exact step_enabled (.sendFail N) rfl (by simp [step, hsd, hsock, hidle])
  | gone =>
  cases hl : s.g.loop with
  | select => exact step_enabled (.loopExit N) rfl (by simp [step, hl, hcan, hidle])
  | hRun f => exact step_enabled (.hDone) rfl (by simp [step, hl])
  | hSend f => exact out .hPut rfl fun ho => by simp [step, hl, ho]
  | gone =>
  have fin (hp : s.g.ping = .gone ∨ s.g.ping = .absent) : ∃ l s', isTeardown l = true ∧ step s l = some s' :=
    step_enabled (.xFinish t) rfl (by have := inv.wg; simp [hr, hsd, hl, hp] at this; simp [step, ht, this])
  cases hp : s.g.ping with
  | idle f => exact step_enabled (.pingExit) rfl (by simp [step, hp, hcan])
  | sending f => exact out .pingPut rfl fun ho => by simp [step, hp, ho]
  | gone => exact fin (.inl hp)
  | absent => exact fin (.inr hp)

/-- lines not yet consumed: unread, held by recv, or queued in conn.in -/
def linesLeft (g : G) : Nat := g.avail + g.inQ + (if g.recv = .holding then 1 else 0)

/-- Steps a goroutine can still take before it has left. Every line a handler or `ping` may still emit counts 4: the
emit, the put, and the 2 that a queued line is worth in `workLeft`. -/
def recvWork : RecvPc → Nat | .gone => 0 | .reading => 1 | .holding => 2
def sendWork : SendPc → Nat | .gone => 0 | .idle => 1 | .writing => 2
def loopWork : LoopPc → Nat | .gone => 0 | .select => 1 | .hRun f => 4 * f + 2 | .hSend f => 4 * f + 5
def pingWork : PingPc → Nat | .gone => 0 | .absent => 0 | .idle f => 4 * f + 1 | .sending f => 4 * f + 4

/-- remaining work of the goroutines once the number of unconsumed lines is fixed. A queued output line counts twice, so
that `send` taking one (idle to writing) is a decrease as well as its write returning (writing to idle): the measure
works whether or not the socket is closed yet. -/
def workLeft (g : G) : Nat := 2 * g.avail + recvWork g.recv + sendWork g.send + loopWork g.loop + pingWork g.ping + 2 * g.outQ

theorem work_decreases {s s' l} (hs : step s l = some s') (hl : isTeardown l = true) (hf : ∀ t, l ≠ .xFinish t) :
    linesLeft s'.g < linesLeft s.g ∨ (linesLeft s'.g = linesLeft s.g ∧ workLeft s'.g < workLeft s.g) := by
  cases l <;> simp [isTeardown] at hl
  case xFinish t => exact (hf t rfl).elim
  -- where a `match` and an `if` were split, `hs` still carries the guard of the `if`
  all_goals
    simp only [step] at hs <;> (try split at hs) <;> (try split at hs) <;> simp at hs <;>
    (try replace hs := hs.2) <;> subst hs <;> simp [linesLeft, workLeft, recvWork, sendWork, loopWork, pingWork, *] <;> omega

/-- the drainer held the mutex, so it was the only one -/
theorem finish_not_draining {s s' t} (inv : Inv s) (hs : step s (.xFinish t) = some s') : ¬ Draining s' := by
  rintro ⟨u, g, hu⟩
  cases Move.of_step hs with
  | xFinish _ g0 ht =>
    have hmt := inv.holder t (by simp [ht, holds])
    by_cases e : u = t
    · simp [setThr, e] at hu
    · simp only [setThr, if_neg e] at hu
      exact e (Option.some.inj ((inv.holder u (by simp [hu, holds])).symm.trans hmt))
  | leave _ _ _ h | inner _ _ h => cases h

def TStep (s' s : St) : Prop := Reach s ∧ Draining s ∧ ∃ l, isTeardown l = true ∧ step s l = some s'

theorem teardown_acc (s : St) : Acc TStep s := by
  have wf := InvImage.wf (fun s : St => (linesLeft s.g, workLeft s.g)) (Prod.lex Nat.lt_wfRel Nat.lt_wfRel).wf
  induction s using wf.induction with
  | _ s ih =>
    constructor
    rintro s' ⟨hr, hd, l, hl, hs⟩
    by_cases hf : ∃ t, l = .xFinish t
    · obtain ⟨t, rfl⟩ := hf
      exact ⟨_, fun _ h => absurd h.2.1 (finish_not_draining (inv_reach hr) hs)⟩
    · refine ih s' ?_
      rcases work_decreases hs hl (fun t e => hf ⟨t, e⟩) with h | ⟨h1, h2⟩
      · exact .left _ _ h
      · show Prod.Lex _ _ (linesLeft s'.g, workLeft s'.g) _
        rw [h1]; exact .right _ h2

theorem wg_zero {s : St} (h : Reach s) (h0 : s.g.wg = 0) :
    s.g.recv = .gone ∧ s.g.send = .gone ∧ s.g.loop = .gone ∧ (s.g.ping = .gone ∨ s.g.ping = .absent) := by
  have hw := (conn_reach h).wg
  rw [WgOk, h0] at hw
  by_cases h1 : s.g.recv = .gone <;> by_cases h2 : s.g.send = .gone <;> by_cases h3 : s.g.loop = .gone <;>
    by_cases h4 : (s.g.ping = .gone ∨ s.g.ping = .absent) <;> simp [h1, h2, h3, h4] at hw ⊢

theorem no_goroutine_left {s s' : St} (h : Reach s) {t : Tid} {g : Gen} (ht : s.thr t = .xDrain g)
    (hs : step s (.xFinish t) = some s') :
    s.g.wg = 0 ∧ s.g.recv = .gone ∧ s.g.send = .gone ∧ s.g.loop = .gone ∧ (s.g.ping = .gone ∨ s.g.ping = .absent) := by
  cases Move.of_step hs with
  | xFinish _ _ _ h0 => exact ⟨h0, wg_zero h h0⟩
  | leave _ _ _ h | inner _ _ h => cases h

theorem reconnect_fresh {s s' : St} {t : Tid} {g' : Gen} (ht : s.thr t = .xLocked (some g')) (hne : g' ≠ s.cur)
    (hs : step s (.xTest t) = some s') :
    s'.connected = s.connected ∧ s'.cur = s.cur ∧ s'.g.sockClosed = s.g.sockClosed ∧ s'.g.cancelled = s.g.cancelled ∧
    s'.g.wg = s.g.wg ∧ s'.g.inQ = s.g.inQ ∧ s'.g.outQ = s.g.outQ ∧
    s'.g.recv = s.g.recv ∧ s'.g.send = s.g.send ∧ s'.g.loop = s.g.loop ∧ s'.g.ping = s.g.ping := by
  simp only [step, ht] at hs
  split at hs
  · simp at hs; subst hs; simp
  · rename_i hn
    exact absurd (Or.inr ⟨g', rfl, hne⟩) hn

theorem can_reconnect {s : St} {t : Tid} {ping : Option Nat} (ht : s.thr t = .cLocked) (hc : s.connected = false) :
    ∃ s', step s (.cSucceed t ping) = some s' ∧ s'.cur = s.cur + 1 ∧ s'.connected = true ∧ s'.g.inQ = 0 ∧ s'.g.outQ = 0 ∧
      s'.g.recv = .reading ∧ s'.g.send = .idle ∧ s'.g.loop = .select ∧ s'.g.sockClosed = false ∧ s'.g.cancelled = false := by
  cases hs : step s (.cSucceed t ping) with
  | none => simp [step, ht, hc] at hs
  | some s' =>
    simp only [step, ht, hc, and_self, if_true, Option.some.injEq] at hs
    subst hs
    simp

end Proofs.C07
