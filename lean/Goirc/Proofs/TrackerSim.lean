import Goirc.Proofs.Tracker
import Goirc.Proofs.TrackerReNick
import Goirc.Proofs.TrackerModes
import Goirc.Proofs.TrackerRemovals
/-! Every tracker operation preserves the simulation relation and returns equal results (`step_sim`): the queries and the
attribute updates here, the others in the module of their kind of update.  What each query answers under `R`, said of the
heap tracker's own step (`R_getNick`, `R_getChannel`, `R_me`, `R_isOn`): it leaves the state as it is, and the answer reads
a lookup of the related `S`.  Then `RetEq` against a given right-hand answer, and its transitivity, for those who compare answers
through the spec. -/
namespace Spec.Tracker
open Go.Tracker AL Props.C12

theorem sim_getNick {st : St} {S : S} (r : R st S) (n : Bytes) : Sim st S (.getNick n) := by
  unfold Sim
  simp only [Go.Tracker.step, Spec.Tracker.step, r.2.has_nicks, has_eq]
  cases h : AL.lookup st.nicks n with
  | none => exact ⟨r, trivial⟩
  | some i => exact ⟨r, nickSnap_sim r h⟩

theorem sim_getChannel {st : St} {S : S} (r : R st S) (n : Bytes) : Sim st S (.getChannel n) := by
  unfold Sim
  simp only [Go.Tracker.step, Spec.Tracker.step, r.2.has_chans, has_eq]
  cases h : AL.lookup st.chans n with
  | none => exact ⟨r, trivial⟩
  | some i => exact ⟨r, chanSnap_sim r h⟩

theorem sim_isOn {st : St} {S : S} (r : R st S) (c n : Bytes) : Sim st S (.isOn c n) := by
  unfold Sim
  simp only [Go.Tracker.step, Spec.Tracker.step, r.2.has_chans, r.2.has_nicks, has_eq, r.2.mem]
  cases h : AL.lookup st.nicks n with
  | none => cases h2 : AL.lookup st.chans c <;> exact ⟨r, rfl, rfl⟩
  | some ni =>
    cases h2 : AL.lookup st.chans c with
    | none => exact ⟨r, rfl, rfl⟩
    | some ci =>
      simp only [Option.bind_some]
      cases h3 : AL.lookup (getN st ni).chans ci <;> exact ⟨r, rfl, rfl⟩

theorem sim_nickInfo {st : St} {S : S} (r : R st S) (n ident host name : Bytes) :
    Sim st S (.nickInfo n ident host name) := by
  unfold Sim
  rcases r.2.nick_cases n with ⟨h, hS⟩ | ⟨i, h, hS⟩ <;> simp only [Go.Tracker.step, Spec.Tracker.step, h, hS]
  · exact ⟨r, trivial⟩
  · have r' := R_nickAttr r h { getN st i with ident := ident, host := host, name := name } rfl rfl
    exact ⟨r', nickSnap_sim r' h⟩

theorem sim_nickModes {st : St} {S : S} (r : R st S) (n modes : Bytes) :
    Sim st S (.nickModes n modes) := by
  unfold Sim
  rcases r.2.nick_cases n with ⟨h, hS⟩ | ⟨i, h, hS⟩ <;> simp only [Go.Tracker.step, Spec.Tracker.step, h, hS]
  · exact ⟨r, trivial⟩
  · have r' := R_nickAttr r h { getN st i with modes := nickParseModes (getN st i).modes false modes } rfl rfl
    exact ⟨r', nickSnap_sim r' h⟩

theorem sim_topic {st : St} {S : S} (r : R st S) (c t : Bytes) :
    Sim st S (.topic c t) := by
  unfold Sim
  rcases r.2.chan_cases c with ⟨h, hS⟩ | ⟨i, h, hS⟩ <;> simp only [Go.Tracker.step, Spec.Tracker.step, h, hS]
  · exact ⟨r, trivial⟩
  · have r' := R_chanAttr r h { getC st i with topic := t } rfl rfl rfl
    exact ⟨r', chanSnap_sim r' h⟩

theorem step_sim {st : St} {S : S} (r : R st S) (op : Op) : Sim st S op := by
  cases op with
  | newNick n => exact sim_newNick r n
  | getNick n => exact sim_getNick r n
  | reNick old neu => exact sim_reNick r old neu
  | delNick n => exact sim_delNick r n
  | nickInfo n ident host name => exact sim_nickInfo r n ident host name
  | nickModes n modes => exact sim_nickModes r n modes
  | newChannel c => exact sim_newChannel r c
  | getChannel c => exact sim_getChannel r c
  | delChannel c => exact sim_delChannel r c
  | topic c t => exact sim_topic r c t
  | channelModes c modes args => exact sim_channelModes r c modes args
  | me => exact sim_me r
  | isOn c n => exact sim_isOn r c n
  | associate c n => exact sim_associate r c n
  | dissociate c n => exact sim_dissociate r c n
  | wipe => exact sim_wipe r

theorem R_getNick {st : St} {S : S} (r : R st S) (n : Bytes) :
    ∃ o, Go.Tracker.step st (.getNick n) = (st, .nick o) ∧ o.isSome = AL.has S.nicks n ∧
      ∀ a, o = some a → NickSnapEq a (nickSnap S n) := by
  rw [r.2.has_nicks, AL.has_eq]
  simp only [Go.Tracker.step]
  cases h : AL.lookup st.nicks n with
  | none => exact ⟨none, rfl, rfl, fun _ e => nomatch e⟩
  | some i => exact ⟨_, rfl, rfl, fun a e => by cases e; exact nickSnap_sim r h⟩

theorem R_getChannel {st : St} {S : S} (r : R st S) (t : Bytes) :
    ∃ o, Go.Tracker.step st (.getChannel t) = (st, .chan o) ∧ o.isSome = AL.has S.chans t ∧
      ∀ a, o = some a → ChanSnapEq a (chanSnap S t) := by
  rw [r.2.has_chans, AL.has_eq]
  simp only [Go.Tracker.step]
  cases h : AL.lookup st.chans t with
  | none => exact ⟨none, rfl, rfl, fun _ e => nomatch e⟩
  | some i => exact ⟨_, rfl, rfl, fun a e => by cases e; exact chanSnap_sim r h⟩

theorem R_me {st : St} {S : S} (r : R st S) :
    ∃ a, Go.Tracker.step st .me = (st, .nick (some a)) ∧ NickSnapEq a (nickSnap S S.me) :=
  ⟨_, rfl, nickSnap_sim r r.2.me⟩

theorem R_isOn {st : St} {S : S} (r : R st S) (c n : Bytes) :
    ∃ p, Go.Tracker.step st (.isOn c n) =
      (st, .privs p (AL.has S.nicks n && AL.has S.chans c && AL.has S.mem (c, n))) := by
  simp only [Go.Tracker.step, r.2.has_chans, r.2.has_nicks, AL.has_eq, r.2.mem]
  cases AL.lookup st.nicks n with
  | none => cases AL.lookup st.chans c <;> exact ⟨none, rfl⟩
  | some ni => cases AL.lookup st.chans c with
    | none => exact ⟨none, rfl⟩
    | some ci => dsimp only [Option.bind_some]; cases AL.lookup (getN st ni).chans ci <;> exact ⟨_, rfl⟩

theorem RetEq_nick_some {x : Ret} {b : NickSnap} (h : RetEq x (.nick (some b))) :
    ∃ a, x = .nick (some a) ∧ NickSnapEq a b := by
  cases x with
  | nick o => cases o with
    | none => exact False.elim h
    | some a => exact ⟨a, rfl, h⟩
  | chan o => cases o <;> exact False.elim h
  | _ => exact False.elim h

theorem RetEq_nick_none {x : Ret} (h : RetEq x (.nick none)) : x = .nick none := by
  cases x with
  | nick o => cases o with
    | none => rfl
    | some a => exact False.elim h
  | chan o => cases o <;> exact False.elim h
  | _ => exact False.elim h

theorem RetEq_chan_some {x : Ret} {b : ChanSnap} (h : RetEq x (.chan (some b))) :
    ∃ a, x = .chan (some a) ∧ ChanSnapEq a b := by
  cases x with
  | chan o => cases o with
    | none => exact False.elim h
    | some a => exact ⟨a, rfl, h⟩
  | nick o => cases o <;> exact False.elim h
  | _ => exact False.elim h

theorem RetEq_chan_none {x : Ret} (h : RetEq x (.chan none)) : x = .chan none := by
  cases x with
  | chan o => cases o with
    | none => rfl
    | some a => exact False.elim h
  | nick o => cases o <;> exact False.elim h
  | _ => exact False.elim h

theorem RetEq_privs {x : Ret} {q : Option ChanPrivs} {ok : Bool} (h : RetEq x (.privs q ok)) : x = .privs q ok := by
  cases x with
  | privs p ok' => rw [h.1, h.2]
  | nick o => cases o <;> exact False.elim h
  | chan o => cases o <;> exact False.elim h
  | _ => exact False.elim h

theorem RetEq_assoc {x : Ret} {q : Option ChanPrivs} (h : RetEq x (.assoc q)) : x = .assoc q := by
  cases x with
  | assoc p => exact congrArg Ret.assoc h
  | nick o => cases o <;> exact False.elim h
  | chan o => cases o <;> exact False.elim h
  | _ => exact False.elim h

theorem RetEq_unit {x : Ret} (h : RetEq x .unit) : x = .unit := by
  cases x with
  | unit => rfl
  | nick o => cases o <;> exact False.elim h
  | chan o => cases o <;> exact False.elim h
  | _ => exact False.elim h

theorem RetEq_trans {a b c : Ret} (h1 : RetEq a b) (h2 : RetEq b c) : RetEq a c := by
  cases c with
  | nick o =>
    cases o with
    | none => rw [RetEq_nick_none h2] at h1; rw [RetEq_nick_none h1]; trivial
    | some z =>
      obtain ⟨y, rfl, b1, b2, b3, b4, b5, b6⟩ := RetEq_nick_some h2
      obtain ⟨x, rfl, a1, a2, a3, a4, a5, a6⟩ := RetEq_nick_some h1
      exact ⟨a1.trans b1, a2.trans b2, a3.trans b3, a4.trans b4, a5.trans b5, a6.trans b6⟩
  | chan o =>
    cases o with
    | none => rw [RetEq_chan_none h2] at h1; rw [RetEq_chan_none h1]; trivial
    | some z =>
      obtain ⟨y, rfl, b1, b2, b3, b4⟩ := RetEq_chan_some h2
      obtain ⟨x, rfl, a1, a2, a3, a4⟩ := RetEq_chan_some h1
      exact ⟨a1.trans b1, a2.trans b2, a3.trans b3, a4.trans b4⟩
  | privs q ok => rw [RetEq_privs h2] at h1; rw [RetEq_privs h1]; exact ⟨rfl, rfl⟩
  | assoc q => rw [RetEq_assoc h2] at h1; rw [RetEq_assoc h1]; exact rfl
  | unit => rw [RetEq_unit h2] at h1; rw [RetEq_unit h1]; trivial

end Spec.Tracker
