import Goirc.Model.Life
import Goirc.Proofs.C07
/-!
# C07: a cancelled context always gets its teardown started

`Path n s`: at most `n` closer steps (`isCloser`) lead from `s` to a state with the flag clear and somebody draining. From
every reachable state with a live connection and a cancelled context four are enough (`cancel_reaches_teardown`), and the
first of them is the progress statement (`cancel_progress`). `stuck` is the state for which the watchdog goroutine
(`watchFire`; fix 9105b13 of the Go code) is in the model, as the model reaches it (`stuckHistory`): of the connection's own
steps (`isOwn`) only `watchFire` is enabled there (`stuck_only_watchdog`).
-/
namespace Proofs.C07Cancel
open Go.Life Proofs.Life Proofs.C07

/-- the steps that lead from "cancelled" to "a closer has passed the test-and-clear"; a Connect that holds the mutex is
refused (the client is connected) and so lets go of it -/
def isCloser : Label → Bool
  | .watchFire _ | .xLock _ | .xTest _ | .cRefuse _ => true
  | _ => false

def run (s : St) : List Label → Option St
  | [] => some s
  | l :: ls => (step s l).bind (fun s1 => run s1 ls)

theorem reach_run {s s' ls} (h : Reach s) (hr : run s ls = some s') : Reach s' := by
  induction ls generalizing s with
  | nil => simp [run] at hr; subst hr; exact h
  | cons l ls ih =>
    simp only [run] at hr
    cases hs : step s l with
    | none => simp [hs] at hr
    | some s1 => simp [hs] at hr; exact ih (Reach.step h hs) hr

theorem xLock_step {s : St} {t : Tid} {tg : Option Gen} (hm : s.mu = none) (ht : s.thr t = .xWant tg) :
    step s (.xLock t) = some { s with mu := some t, thr := setThr s t (.xLocked tg) } := by
  simp [step, ht, hm]

theorem xTest_begin {s : St} {t : Tid} {tg} (ht : s.thr t = .xLocked tg)
    (hn : ¬ (s.connected = false ∨ ∃ g', tg = some g' ∧ g' ≠ s.cur)) :
    step s (.xTest t) = some { s with connected := false, g := { s.g with sockClosed := true, cancelled := true },
                                      thr := setThr s t (.xDrain s.cur), log := s.log ++ [.tested s.cur] } := by
  simp only [step, ht, if_neg hn]

def Path (n : Nat) (s : St) : Prop :=
  ∃ ls s', run s ls = some s' ∧ ls.length ≤ n ∧ (∀ l ∈ ls, isCloser l = true) ∧ s'.connected = false ∧ Draining s'

theorem Path.nil {s t g} (hc : s.connected = false) (ht : s.thr t = .xDrain g) : Path 0 s :=
  ⟨[], s, rfl, Nat.le_refl _, (fun _ h => nomatch h), hc, t, g, ht⟩

theorem Path.cons {n s l s1} (hl : isCloser l = true) (hs : step s l = some s1) (h : Path n s1) : Path (n + 1) s := by
  obtain ⟨ls, s', hr, hn, ha, h'⟩ := h
  exact ⟨l :: ls, s', by simp [run, hs, hr], Nat.succ_le_succ hn, List.forall_mem_cons.2 ⟨hl, ha⟩, h'⟩

theorem Path.mono {n m s} (h : Path n s) (hnm : n ≤ m) : Path m s :=
  let ⟨ls, s', hr, hn, h'⟩ := h; ⟨ls, s', hr, Nat.le_trans hn hnm, h'⟩

theorem closer_takes_over {s : St} {t : Tid} (hc : s.connected = true) (hm : s.mu = none)
    (ht : s.thr t = .xWant (some s.cur)) : Path 2 s :=
  .cons rfl (xLock_step hm ht) <| .cons rfl (xTest_begin (if_pos rfl) (by simp [hc])) <| .nil rfl (if_pos rfl)

theorem free_path {s : St} (h : Reach s) (hc : s.connected = true) (hx : s.g.cancelled = true) (hm : s.mu = none) :
    Path 3 s := by
  have inv := inv_reach h
  by_cases hwatch : s.g.watch = true
  · obtain ⟨N, hN⟩ := inv.fin
    have hs : step s (.watchFire N) =
        some { s with g := { s.g with watch := false }, thr := setThr s N (.xWant (some s.cur)) } := by
      simp [step, hwatch, hx, hN N (Nat.le_refl _)]
    exact .cons rfl hs (closer_takes_over hc hm (if_pos rfl))
  · obtain ⟨t, ht | ht⟩ := (conn_reach h).wd hc (by simpa using hwatch)
    · exact (closer_takes_over hc hm ht).mono (by decide)
    · have := inv.holder t (by simp [ht, holds]); simp [hm] at this

theorem cancel_reaches_teardown {s : St} (h : Reach s) (hc : s.connected = true) (hx : s.g.cancelled = true) :
    ∃ ls s', run s ls = some s' ∧ ls.length ≤ 4 ∧ (∀ l ∈ ls, isCloser l = true) ∧ s'.connected = false ∧ Draining s' := by
  cases hm : s.mu with
  | none => exact (free_path h hc hx hm).mono (by decide)
  | some u =>
    -- the holder's own next step: it either releases the mutex without touching the connection, or begins the teardown
    show Path 4 s
    rcases ((C06.invS_reach h).holder u).mp hm with hp | ⟨tg, hp⟩ | ⟨g, hp⟩
    · have hs : step s (.cRefuse u) = some { s with mu := none, thr := setThr s u .idle, log := s.log ++ [.connectErr] } := by
        simp [step, hp]
      exact .cons rfl hs (free_path (h.step hs) hc hx rfl)
    · by_cases hn : s.connected = false ∨ (∃ g', tg = some g' ∧ g' ≠ s.cur)
      · have hs : step s (.xTest u) = some { s with mu := none, thr := setThr s u .idle, log := s.log ++ [.closeNoop tg] } := by
          simp only [step, hp, if_pos hn]
        exact .cons rfl hs (free_path (h.step hs) hc hx rfl)
      · exact (Path.cons rfl (xTest_begin hp hn) (.nil rfl (if_pos rfl))).mono (by decide)
    · have := ((inv_reach h).drain u g hp).2.1; simp [hc] at this

/-- the first step of that path: there is one, since the path clears `connected` -/
theorem cancel_progress {s : St} (h : Reach s) (hc : s.connected = true) (hx : s.g.cancelled = true) :
    ∃ l s', isCloser l = true ∧ step s l = some s' := by
  obtain ⟨ls, s', hr, -, hl, hc', -⟩ := cancel_reaches_teardown h hc hx
  cases ls with
  | nil => cases hr; simp [hc] at hc'
  | cons l ls =>
    cases hs : step s l with
    | none => simp [run, hs] at hr
    | some s1 => exact ⟨l, s1, hl l List.mem_cons_self, hs⟩

theorem run_other {s s' ls} (hr : run s ls = some s') (u : Tid) (hu : ∀ l ∈ ls, tidOf l ≠ some u) :
    s'.thr u = s.thr u := by
  induction ls generalizing s with
  | nil => simp [run] at hr; subst hr; rfl
  | cons l ls ih =>
    simp only [run] at hr
    cases hs : step s l with
    | none => simp [hs] at hr
    | some s1 =>
      simp [hs] at hr
      rw [ih hr (fun l' hl' => hu l' (List.mem_cons_of_mem _ hl')), (Move.of_step hs).other u (hu l (List.mem_cons_self))]

/-- what the connection does on its own: its goroutines, the watchdog, and threads inside Connect / Close - everything
but new API calls, the environment (server, peer, user's context) and stragglers of older generations -/
def isOwn : Label → Bool
  | .connect _ | .close _ | .srvSend | .srvEOF | .writeErr | .ctxCancel | .peerStall | .peerResume | .stale _ _ => false
  | _ => true

/-- the history of defect 12: connect; one line arrives whose handler emits 34 lines; the peer stops reading; `send`
takes the first line and sits in the write; the handler fills the output queue (`cap` = 32) and blocks on the next line; the
user cancels the context -/
def stuckHistory : List Label :=
  [.connect 0, .cLock 0, .cSucceed 0 none, .cRegister 0, .cRet 0, .srvSend, .recvTake, .recvPut, .loopTake 34,
   .peerStall, .hEmit, .hPut, .sendTake] ++ (List.replicate 32 [Label.hEmit, Label.hPut]).flatten ++ [.hEmit, .ctxCancel]

theorem stuck_runs : (run {} stuckHistory).isSome = true := by decide

def stuck : St := (run {} stuckHistory).get stuck_runs

theorem stuck_run : run {} stuckHistory = some stuck := by simp [stuck]

theorem stuck_reach : Reach stuck := reach_run Reach.init stuck_run

theorem stuck_threads (t : Tid) : stuck.thr t = .idle := by
  by_cases h0 : t = 0
  · subst h0; decide
  · have hall : stuckHistory.all (fun l => tidOf l = none || tidOf l = some 0) = true := by decide
    have := run_other stuck_run t (fun l hl => by
      have := List.all_eq_true.mp hall l hl
      simp only [Bool.or_eq_true, decide_eq_true_eq] at this
      rcases this with h | h
      · rw [h]; simp
      · rw [h]; intro e; exact h0 (Option.some.inj e).symm)
    rw [this]

theorem stuck_only_watchdog (l : Label) (s' : St) (hs : step stuck l = some s') (ho : isOwn l = true) :
    ∃ t, l = .watchFire t := by
  have hthr := stuck_threads
  have h1 : stuck.g.recv = .reading := by decide
  have h2 : stuck.g.avail = 0 := by decide
  have h3 : stuck.g.eof = false := by decide
  have h4 : stuck.g.sockClosed = false := by decide
  have h5 : stuck.g.werr = false := by decide
  have h6 : stuck.g.stalled = true := by decide
  have h7 : stuck.g.loop = .hSend 0 := by decide
  have h8 : stuck.g.outQ = 32 := by decide
  have h9 : stuck.g.send = .writing := by decide
  have h10 : stuck.g.ping = .absent := by decide
  cases l <;> simp only [isOwn] at ho <;> simp only [step, hthr, h1, h2, h3, h4, h5, h6, h7, h8, h9, h10] at hs <;>
    first
    | exact ⟨_, rfl⟩
    | (simp [cap] at hs; done)
    | (split at hs <;> simp at hs; done)
    | cases ho

end Proofs.C07Cancel
