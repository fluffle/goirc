import Goirc.Proofs.C13Ops
import Goirc.Proofs.C13Parse
import Goirc.Proofs.C13InvAuxGround
/-!
# C13: NICK, TOPIC and the client's own user-mode change bring the relational state to the new view
-/
namespace Proofs.C13
open Go Go.Client Go.Tracker Spec.Tracker Spec.Net

theorem ev_nick (ext : UnicodeExt) (nn : Bytes → Bytes) (n : Net) (u nw : Bytes) (hi : NetInv n)
    (hc : conforms n (.nick u nw) = true) :
    Eqv (tFeed ext nn n.view (serverStep n (.nick u nw)).2) (serverStep n (.nick u nw)).1.view := by
  simp only [conforms, Bool.and_eq_true, Bool.not_eq_true'] at hc
  obtain ⟨⟨hu, hnw⟩, hnok⟩ := hc
  obtain ⟨x, hx⟩ := (AL.has_true_iff _ _).1 hu
  obtain ⟨h1, h2, h3, hm⟩ := hi.user hx
  simp only [serverStep]
  cases hvis : (u == n.me || sharesWithMe n u) with
  | false => simp only [Bool.false_eq_true, if_false, tFeed]; exact Eqv.refl _
  | true =>
    simp only [if_true]
    have hvn := hi.view_nicks u
    rw [hvis] at hvn
    obtain ⟨r, hr⟩ := (AL.has_true_iff _ _).1 hvn
    simp only [hr]
    obtain ⟨L, hn, -, -, hcmd, ha, hf⟩ := (parse_NICK ext u x.ident x.host h1 h2 h3 nw hnok).feed nn n.view []
    rw [hm, hf, tDispatch_NICK ext nn _ hcmd]
    have hnew : AL.has n.view.nicks nw = false :=
      Bool.eq_false_iff.2 fun h => by rw [hi.view_users h] at hnw; cases hnw
    simp only [tFeed, t_STNICK, arg, ha, hn, List.getElem?_cons_zero, sx_reNick, hr, hnew, Bool.false_eq_true, if_false]
    exact Eqv.refl _

theorem ev_topic (ext : UnicodeExt) (nn : Bytes → Bytes) (n : Net) (u c t : Bytes) (hi : NetInv n)
    (hc : conforms n (.topic u c t) = true) :
    Eqv (tFeed ext nn n.view (serverStep n (.topic u c t)).2) (serverStep n (.topic u c t)).1.view := by
  simp only [conforms, Bool.and_eq_true] at hc
  obtain ⟨-, hcn, x, hx⟩ := hi.member hc.1
  obtain ⟨h1, h2, h3, hm⟩ := hi.user hx
  simp only [serverStep]
  cases hl : AL.lookup n.chans c with
  | none => simp only [tFeed]; exact Eqv.refl _
  | some ch =>
    simp only []
    cases hvis : onChan n n.me c with
    | false => simp only [Bool.false_eq_true, if_false, tFeed, setChan]; exact Eqv.refl _
    | true =>
      simp only [if_true, setChan]
      have hvc := hi.view_chans c
      rw [hvis] at hvc
      obtain ⟨r, hr⟩ := (AL.has_true_iff _ _).1 hvc
      obtain ⟨L, -, -, -, hcmd, ha, hf⟩ := (parse_TOPIC ext u x.ident x.host h1 h2 h3 c t hcn).feed nn n.view []
      rw [hm, hf, tDispatch_TOPIC ext nn _ hcmd]
      simp only [tFeed, t_TOPIC, arg, ha, List.getElem?_cons_zero, List.getElem?_cons_succ, hvc, if_true, sx_topic,
        hr, Option.getD_some]
      exact Eqv.refl _

theorem ev_umode (ext : UnicodeExt) (nn : Bytes → Bytes) (n : Net) (add : Bool) (l : UInt8) (hi : NetInv n)
    (hc : conforms n (.umode add l) = true) :
    Eqv (tFeed ext nn n.view (serverStep n (.umode add l)).2) (serverStep n (.umode add l)).1.view := by
  simp only [conforms] at hc
  -- a user-mode letter is printable and is no sign
  obtain ⟨hrange, h43, h45⟩ := (by decide : ∀ l ∈ [66, 105, 111, 119, 120, 122],
    ((32 : UInt8) < l ∧ l < 127) ∧ (l == 43) = false ∧ (l == 45) = false) l (by simpa using hc)
  obtain ⟨x, hx⟩ := (AL.has_true_iff _ _).1 hi.me_user
  have hmeok := (hi.users_ok n.me x hx).1
  have hsign : (if add then (43:UInt8) else 45) = 43 ∨ (if add then (43:UInt8) else 45) = 45 := by
    cases add <;> simp
  obtain ⟨L, -, -, -, hcmd, ha, hf⟩ :=
    (parse_UMODE ext n.me (nameOk_of_nickOk hmeok) (if add then 43 else 45) l hsign hrange).feed nn n.view []
  simp only [serverStep]
  rw [hf, tDispatch_MODE ext nn _ hcmd]
  -- the client's nick is no channel name: it does not begin with `#`
  have hnochan : AL.has n.view.chans n.me = false := by
    rw [hi.view_chans]
    cases h : onChan n n.me n.me with
    | false => rfl
    | true =>
      have h35 := (hi.member h).1
      simp only [chanOk, Bool.and_eq_true, beq_iff_eq] at h35
      simp [nickOk, nickHeadOk, h35.1] at hmeok
  have hnick : AL.has n.view.nicks n.me = true := by
    rw [hi.view_nicks]; simp
  obtain ⟨r, hr⟩ := (AL.has_true_iff _ _).1 hnick
  have hmodes : nickParseModes r.modes false [if add then 43 else 45, l] = applyNickMode r.modes add l := by
    cases add <;> simp [nickParseModes, h43, h45]
  simp only [tFeed, t_MODE, arg, ha, List.getElem?_cons_zero, List.getElem?_cons_succ, hnochan, hnick, hi.me_view,
    beq_self_eq_true, Bool.false_eq_true, if_false, if_true, sx_nickModes, hr, Option.getD_some, hmodes]
  exact Eqv.refl _

end Proofs.C13
