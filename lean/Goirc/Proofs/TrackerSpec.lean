import Goirc.Proofs.AList
import Goirc.Spec.Tracker
/-!
# Facts about the relational tracker spec itself

The removals (`dropNick`, `dropChan`, and `sdissoc1`, which is `dissociate` of somebody else: one membership goes, and the nick
with it if that was its last and it is not the client) as filters of the original lists, hence what `lookup` finds after them;
`dropChan` and `dropNick` are the same as removing memberships one at a time.  `renKey`, the rename of the membership keys in
`reNick`, with what `lookup` finds after it.
-/
namespace Spec.Tracker
open Go.Tracker

def sdissoc1 (S : S) (c a : Bytes) : Spec.Tracker.S :=
  let S1 : Spec.Tracker.S := { S with mem := AL.erase S.mem (c, a) }
  if (memberships S1 a).isEmpty && a != S1.me then dropNick S1 a else S1

def lone (S : S) (c a : Bytes) : Bool :=
  (S.mem.filter (fun m => m.1.2 == a && m.1.1 != c)).isEmpty && a != S.me

theorem lone_iff (S : S) (c a : Bytes) :
    lone S c a = true ↔ a ≠ S.me ∧ ∀ k, k ≠ c → AL.lookup S.mem (k, a) = none := by
  rw [lone, Bool.and_eq_true, bne_iff_ne, AL.filter_key_isEmpty S.mem (fun k => k.2 == a && k.1 != c), and_comm]
  refine and_congr_right fun _ => ⟨fun h k hk => h (k, a) (by simpa using hk), fun h k hk => ?_⟩
  obtain ⟨k1, k2⟩ := k
  simp only [Bool.and_eq_true, beq_iff_eq, bne_iff_ne] at hk
  rw [hk.1]; exact h k1 hk.2

theorem lone_me (S : S) (c : Bytes) : lone S c S.me = false := by
  simp [lone]

theorem exists_other_of_not_lone {S : S} {c a : Bytes} (hme : a ≠ S.me) (hl : lone S c a = false) :
    ∃ k, k ≠ c ∧ AL.has S.mem (k, a) = true := by
  have h : ¬ ∀ k, k ≠ c → AL.lookup S.mem (k, a) = none := fun hh => by
    rw [(lone_iff S c a).2 ⟨hme, hh⟩] at hl; cases hl
  obtain ⟨k, hk⟩ := Classical.not_forall.1 h
  obtain ⟨hkc, hk⟩ := Classical.not_imp.1 hk
  exact ⟨k, hkc, by rw [AL.has_eq, Option.isSome_iff_ne_none]; exact hk⟩

private theorem filter_true' {α : Type} (l : List α) : l.filter (fun _ => true) = l :=
  List.filter_eq_self.2 (fun _ _ => rfl)

theorem dropNick_of_empty (T : S) (n : Bytes) (h : (memberships T n).isEmpty = true)
    (hme : (n != T.me) = true) :
    dropNick T n = { T with nicks := T.nicks.filter (fun e => decide (e.1 ≠ n)) } := by
  have hne : (n == T.me) = false := by simpa using hme
  have hmem : T.mem.filter (fun m => m.1.2 != n) = T.mem := by
    rw [List.filter_eq_self]
    intro m hm
    simp only [memberships, List.isEmpty_iff, List.filter_eq_nil_iff] at h
    have := h m hm
    simpa using this
  simp only [dropNick, hne, Bool.false_eq_true, if_false, hmem, AL.erase_eq_filter]

/-- The conditional fold inside `dropChan` as one filter of the nick list: the memberships do not change along the fold, so
every test can be made on the state before it. -/
theorem condfold_eq (l : List Bytes) (T : S) :
    l.foldl (fun st n => if (memberships st n).isEmpty && n != st.me then dropNick st n else st) T
      = { T with nicks := T.nicks.filter (fun e => !(l.contains e.1 && ((memberships T e.1).isEmpty && e.1 != T.me))) } := by
  induction l generalizing T with
  | nil => simp [filter_true']
  | cons n l ih =>
    rw [List.foldl_cons]
    by_cases hc : ((memberships T n).isEmpty && n != T.me) = true
    · have h1 : (memberships T n).isEmpty = true := by
        rw [Bool.and_eq_true] at hc; exact hc.1
      have h2 : (n != T.me) = true := by
        rw [Bool.and_eq_true] at hc; exact hc.2
      rw [if_pos hc, dropNick_of_empty T n h1 h2, ih]
      simp only [memberships, List.filter_filter, Spec.Tracker.S.mk.injEq, and_true]
      apply List.filter_congr
      intro e he
      simp only [memberships] at h1
      by_cases hen : e.1 = n
      · simp [hen, h1, h2]
      · simp [hen]
    · rw [if_neg hc, ih]
      simp only [Spec.Tracker.S.mk.injEq, and_true]
      apply List.filter_congr
      intro e he
      by_cases hen : e.1 = n
      · have hc' : ((memberships T n).isEmpty && n != T.me) = false := by simpa using hc
        simp [hen, hc']
      · simp [hen]

theorem sdissoc1_eq (S : S) (c a : Bytes) :
    sdissoc1 S c a = { S with mem := S.mem.filter (fun m => decide (m.1 ≠ (c, a))),
                              nicks := S.nicks.filter (fun e => !(e.1 == a && lone S c a)) } := by
  have hl : ((memberships { S with mem := AL.erase S.mem (c, a) } a).isEmpty && a != S.me)
      = lone S c a := by
    simp only [memberships, lone, AL.erase_eq_filter, List.filter_filter]
    congr 2
    apply List.filter_congr
    intro m hm
    obtain ⟨⟨x, y⟩, p⟩ := m
    grind
  simp only [sdissoc1]
  rw [hl]
  by_cases hc : lone S c a = true
  · rw [if_pos hc]
    have hc' := hc
    rw [← hl, Bool.and_eq_true] at hc'
    rw [dropNick_of_empty _ a hc'.1 hc'.2]
    simp only [AL.erase_eq_filter, Spec.Tracker.S.mk.injEq, and_true]
    apply List.filter_congr
    intro e he
    rw [hc]
    grind
  · rw [if_neg hc]
    have hc' : lone S c a = false := by simpa using hc
    simp [hc', AL.erase_eq_filter, filter_true']

private theorem lone_sdissoc1 (S : S) (c a b : Bytes) : lone (sdissoc1 S c a) c b = lone S c b := by
  rw [sdissoc1_eq]
  simp only [lone, List.filter_filter]
  congr 2
  apply List.filter_congr
  intro m hm
  obtain ⟨⟨x, y⟩, p⟩ := m
  grind

private theorem fold_sdissoc1_eq (c : Bytes) (names : List Bytes) (S : S) :
    names.foldl (fun T a => sdissoc1 T c a) S =
      { S with mem := S.mem.filter (fun m => !(m.1.1 == c && names.contains m.1.2)),
               nicks := S.nicks.filter (fun e => !(names.contains e.1 && lone S c e.1)) } := by
  induction names generalizing S with
  | nil => simp [filter_true']
  | cons a rest ih =>
    rw [List.foldl_cons, ih]
    simp only [lone_sdissoc1]
    rw [sdissoc1_eq]
    simp only [List.filter_filter, Spec.Tracker.S.mk.injEq, and_true, true_and]
    constructor
    · apply List.filter_congr
      intro e he
      cases hla : lone S c a <;> grind
    · apply List.filter_congr
      intro m hm
      obtain ⟨⟨x, y⟩, p⟩ := m
      grind

/-- the members of `c`, as `dropChan` collects them -/
theorem members_contains (S : S) (c u : Bytes) :
    ((S.mem.filter (fun m => m.1.1 == c)).map (·.1.2)).contains u = AL.has S.mem (c, u) := by
  rw [Bool.eq_iff_iff, AL.has_iff_exists_mem]
  simp only [List.contains_iff_mem, List.mem_map, List.mem_filter, beq_iff_eq]
  constructor
  · rintro ⟨⟨⟨x, y⟩, p⟩, ⟨hm, rfl⟩, rfl⟩
    exact ⟨p, hm⟩
  · rintro ⟨p, hm⟩
    exact ⟨((c, u), p), ⟨hm, rfl⟩, rfl⟩

theorem dropChan_closed (S : S) (c : Bytes) :
    dropChan S c = { S with chans := AL.erase S.chans c, mem := S.mem.filter (fun m => m.1.1 != c),
                            nicks := S.nicks.filter (fun e => !(AL.has S.mem (c, e.1) && lone S c e.1)) } := by
  simp only [dropChan]
  rw [condfold_eq]
  simp only [memberships, List.filter_filter, members_contains, Spec.Tracker.S.mk.injEq, and_true]
  apply List.filter_congr
  intro e _
  simp only [lone, Bool.and_comm]

theorem dropChan_eq_fold (S : S) (c : Bytes) (names : List Bytes)
    (h : ∀ b, b ∈ names ↔ AL.has S.mem (c, b) = true) :
    dropChan S c =
      { (names.foldl (fun T a => sdissoc1 T c a) S) with
          chans := AL.erase (names.foldl (fun T a => sdissoc1 T c a) S).chans c } := by
  have hn : ∀ b, names.contains b = AL.has S.mem (c, b) := fun b => by
    rw [Bool.eq_iff_iff, List.contains_iff_mem, h]
  rw [fold_sdissoc1_eq, dropChan_closed]
  simp only [hn, Spec.Tracker.S.mk.injEq, and_true, true_and]
  apply List.filter_congr
  intro m hm
  by_cases hx : m.1.1 = c
  · have : AL.has S.mem (c, m.1.2) = true := hx ▸ AL.has_of_mem hm
    simp [hx, this]
  · have : (m.1.1 == c) = false := beq_false_of_ne hx
    simp [bne, this]

theorem dropNick_eq_fold (S : S) (a : Bytes) (cs : List Bytes) (hme : a ≠ S.me)
    (h : ∀ cn p, ((cn, a), p) ∈ S.mem → cn ∈ cs) :
    dropNick S a = { S with nicks := AL.erase S.nicks a,
                            mem := cs.foldl (fun m cn => AL.erase m (cn, a)) S.mem } := by
  have hne : (a == S.me) = false := by simpa using hme
  rw [← List.foldl_map (f := fun cn => (cn, a)) (g := fun m k => AL.erase m k), AL.foldl_erase]
  simp only [dropNick, hne, Bool.false_eq_true, if_false, Spec.Tracker.S.mk.injEq, and_true, true_and]
  apply List.filter_congr
  intro e he
  obtain ⟨⟨u, v⟩, p⟩ := e
  by_cases hv : v = a
  · subst hv
    have := h u p he
    simp [this]
  · grind

theorem dropChan_absent (S : S) (c : Bytes) (h1 : AL.lookup S.chans c = none)
    (h2 : ∀ b, AL.lookup S.mem (c, b) = none) : dropChan S c = S := by
  rw [dropChan_eq_fold S c [] fun b => by rw [AL.has_eq, h2]; simp]
  simp only [List.foldl_nil, AL.erase_of_lookup_none h1]

theorem dropNick_nicks (S : S) (n k : Bytes) (h : n ≠ S.me) :
    AL.lookup (dropNick S n).nicks k = if n = k then none else AL.lookup S.nicks k := by
  have hne : (n == S.me) = false := beq_false_of_ne h
  simp only [dropNick, hne, Bool.false_eq_true, if_false, AL.lookup_erase]

theorem dropNick_mem (S : S) (n c u : Bytes) (h : n ≠ S.me) :
    AL.lookup (dropNick S n).mem (c, u) = if u = n then none else AL.lookup S.mem (c, u) := by
  have hne : (n == S.me) = false := beq_false_of_ne h
  simp only [dropNick, hne, Bool.false_eq_true, if_false]
  rw [AL.lookup_filter_key S.mem (fun k => k.2 != n) (c, u)]
  by_cases hu : u = n <;> simp [hu]

theorem dropNick_chans (S : S) (n : Bytes) : (dropNick S n).chans = S.chans := by
  unfold dropNick; split <;> rfl

theorem dropNick_me (S : S) (n : Bytes) : (dropNick S n).me = S.me := by
  unfold dropNick; split <;> rfl

theorem dropChan_nicks (S : S) (c u : Bytes) :
    AL.lookup (dropChan S c).nicks u = if AL.has S.mem (c, u) && lone S c u then none else AL.lookup S.nicks u := by
  rw [dropChan_closed]
  refine (AL.lookup_filter_key S.nicks (fun x => !(AL.has S.mem (c, x) && lone S c x)) u).trans ?_
  cases AL.has S.mem (c, u) && lone S c u <;> rfl

theorem dropChan_chans (S : S) (c k : Bytes) :
    AL.lookup (dropChan S c).chans k = if c = k then none else AL.lookup S.chans k := by
  rw [dropChan_closed]; exact AL.lookup_erase ..

theorem dropChan_mem (S : S) (c k u : Bytes) :
    AL.lookup (dropChan S c).mem (k, u) = if k = c then none else AL.lookup S.mem (k, u) := by
  rw [dropChan_closed]
  refine (AL.lookup_filter_key S.mem (fun x => x.1 != c) (k, u)).trans ?_
  by_cases hk : k = c <;> simp [hk]

theorem dropChan_me (S : S) (c : Bytes) : (dropChan S c).me = S.me := by
  rw [dropChan_closed]

theorem sdissoc1_nicks (S : S) (c a u : Bytes) :
    AL.lookup (sdissoc1 S c a).nicks u = if u == a && lone S c a then none else AL.lookup S.nicks u := by
  rw [sdissoc1_eq]
  refine (AL.lookup_filter_key S.nicks (fun x => !(x == a && lone S c a)) u).trans ?_
  cases u == a && lone S c a <;> rfl

theorem sdissoc1_chans (S : S) (c a : Bytes) : (sdissoc1 S c a).chans = S.chans := by
  rw [sdissoc1_eq]

theorem sdissoc1_mem (S : S) (c a : Bytes) (k : Bytes × Bytes) :
    AL.lookup (sdissoc1 S c a).mem k = if (c, a) = k then none else AL.lookup S.mem k := by
  rw [sdissoc1_eq, ← AL.erase_eq_filter]; exact AL.lookup_erase ..

theorem sdissoc1_me (S : S) (c a : Bytes) : (sdissoc1 S c a).me = S.me := by
  rw [sdissoc1_eq]

theorem step_dissociate (S : S) (c n : Bytes) :
    step S (.dissociate c n) =
      (if AL.has S.chans c && AL.has S.nicks n && AL.has S.mem (c, n) then
         if n == S.me then dropChan S c else sdissoc1 S c n
       else S, .unit) := by
  simp only [step, sdissoc1]
  split
  · split
    · rfl
    · rename_i hn
      simp only [bne, hn, Bool.not_false, Bool.and_true]
      split <;> rfl
  · rfl

def renKey (old neu : Bytes) (m : (Bytes × Bytes) × ChanPrivs) : (Bytes × Bytes) × ChanPrivs :=
  if m.1.2 == old then ((m.1.1, neu), m.2) else m

theorem lookup_renKey {old neu : Bytes} (m : List ((Bytes × Bytes) × ChanPrivs))
    (hfree : ∀ e ∈ m, e.1.2 ≠ neu) (cn a : Bytes) :
    AL.lookup (m.map (renKey old neu)) (cn, a) =
      if a = neu then AL.lookup m (cn, old) else if a = old then none else AL.lookup m (cn, a) := by
  induction m with
  | nil => simp
  | cons e m ih =>
    obtain ⟨⟨c', n'⟩, v⟩ := e
    have h1 : n' ≠ neu := hfree ((c', n'), v) (by simp)
    have ih := ih (fun e he => hfree e (List.mem_cons_of_mem _ he))
    simp only [List.map_cons, renKey, beq_iff_eq]
    by_cases h2 : n' = old
    · subst h2
      simp only [if_true, AL.lookup_cons, Prod.mk.injEq, ih]
      grind
    · simp only [h2, if_false, AL.lookup_cons, Prod.mk.injEq, ih]
      grind

theorem nodup_renKey {old neu : Bytes} (m : List ((Bytes × Bytes) × ChanPrivs))
    (hfree : ∀ e ∈ m, e.1.2 ≠ neu) (nd : (AL.keys m).Nodup) :
    (AL.keys (m.map (renKey old neu))).Nodup := by
  unfold AL.keys
  rw [List.map_map]
  apply AL.nodup_map_of_keys _ nd
  intro x hx y hy hxy
  obtain ⟨⟨c1, n1⟩, v1⟩ := x
  obtain ⟨⟨c2, n2⟩, v2⟩ := y
  have f1 : n1 ≠ neu := hfree _ hx
  have f2 : n2 ≠ neu := hfree _ hy
  simp only [Function.comp, renKey, beq_iff_eq] at hxy
  by_cases h1 : n1 = old <;> by_cases h2 : n2 = old <;> simp [h1, h2] at hxy <;> grind

theorem nickSnap_channels_ne_nil {S : S} {c u : Bytes} (h : AL.has S.mem (c, u) = true) :
    (nickSnap S u).channels ≠ [] := by
  obtain ⟨p, hp⟩ := (AL.has_true_iff _ _).1 h
  refine List.ne_nil_of_mem (a := (c, p)) ?_
  exact List.mem_map.2 ⟨((c, u), p), List.mem_filter.2 ⟨AL.mem_of_lookup hp, beq_self_eq_true u⟩, rfl⟩

end Spec.Tracker
