/-! List facts that core does not state, shared by the proof modules. -/
namespace List
variable {α : Type}

theorem lt_length_of_getElem? {l : List α} {i : Nat} {a : α} (h : l[i]? = some a) : i < l.length :=
  (getElem?_eq_some_iff.1 h).1

theorem getElem?_concat_eq_some {l : List α} {a b : α} {i : Nat} :
    (l ++ [a])[i]? = some b ↔ l[i]? = some b ∨ (i = l.length ∧ a = b) := by
  rw [getElem?_append, getElem?_singleton]
  split
  · next h => simp [Nat.ne_of_lt h]
  · next h =>
    have : i - l.length = 0 ↔ i = l.length := by omega
    simp [getElem?_eq_none (Nat.le_of_not_lt h), this]

theorem dropWhile_head (p : α → Bool) (l : List α) (h : ∀ x, l.head? = some x → p x = false) :
    l.dropWhile p = l := by
  cases l with
  | nil => rfl
  | cons y l => simp [List.dropWhile, h y rfl]

theorem trim_append (p : α → Bool) (a m b : List α) (ha : ∀ x ∈ a, p x = true) (hb : ∀ x ∈ b, p x = true)
    (hm : ∀ x ∈ m, p x = false) : (((a ++ (m ++ b)).dropWhile p).reverse.dropWhile p).reverse = m := by
  rw [dropWhile_append_of_pos ha]
  cases m with
  | nil => rw [nil_append, ← append_nil b, dropWhile_append_of_pos hb]; rfl
  | cons y m =>
    rw [cons_append, dropWhile_cons_of_neg (by simp [hm y]), ← cons_append, reverse_append,
      dropWhile_append_of_pos (fun x hx => hb x (mem_reverse.1 hx)),
      dropWhile_head _ _ (fun x hx => hm x (mem_reverse.1 (mem_of_mem_head? hx))), reverse_reverse]

theorem dropLast_of_getLast? (l : List α) (a : α) (h : l.getLast? = some a) : l = l.dropLast ++ [a] := by
  obtain ⟨ys, rfl⟩ := getLast?_eq_some_iff.1 h
  simp

theorem filter_not_of_filter_empty (l : List α) (p : α → Bool)
    (h : (l.filter p).isEmpty = true) : l.filter (fun a => !p a) = l := by
  rw [isEmpty_iff, filter_eq_nil_iff] at h
  rw [filter_eq_self]
  intro a ha
  simpa using h a ha

theorem disjoint_of_nodup_flatMap {β : Type} (f : α → List β) (L : List α) (hnd : (L.flatMap f).Nodup)
    (i j : Nat) (a b : α) (hij : i ≠ j) (hi : L[i]? = some a) (hj : L[j]? = some b) : ∀ x ∈ f a, x ∉ f b := by
  intro x hxa hxb
  have hp := pairwise_iff_getElem.1 (pairwise_flatMap.1 hnd).2
  obtain ⟨hi', rfl⟩ := getElem?_eq_some_iff.1 hi
  obtain ⟨hj', rfl⟩ := getElem?_eq_some_iff.1 hj
  rcases Nat.lt_or_gt_of_ne hij with h | h
  · exact hp i j hi' hj' h x hxa x hxb rfl
  · exact hp j i hj' hi' h x hxb x hxa rfl

end List
