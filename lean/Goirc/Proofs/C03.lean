import Goirc.Spec.Dispatch
/-!
# Invariants of the Dispatch LTS (C03 / C05 / C16)

`Step` is `Go.Dispatch.step` as a relation. `Inv` carries the four scans of `Spec.Dispatch.ok` along the log (`inv_snoc`:
which event may be logged next). `Inv2` is the fork/join bookkeeping of the foreground snapshots; its lemmas rest on one
observation: an event that is not about line `k` (`fgLine o ≠ some k`) changes nothing that is said about line `k`.
`inv2_step` takes a step apart into an event about no line being logged (`inv2_log`), a move between phases other than
`fg` with the log fixed (`inv2_nonfg`), and an event of the line that is in its foreground phase (`inv2_fg`).
-/
namespace Proofs.C03
open Go.Dispatch Spec.Dispatch

inductive Step (s : St) : Label → St → Prop
  | recv : Step s .recv { s with recvd := s.recvd + 1 }
  | take (w n) : s.phase = .idle ∧ s.qhead < s.recvd →
      Step s (.take w n) { s with phase := .int s.qhead w, qhead := s.qhead + 1, intLeft := n }
  | intLeave {k w} : s.phase = .int k w → s.intLeft > 0 → Step s .intLeave { s with intLeft := s.intLeft - 1 }
  | intLeaveN {k} : s.phase = .nested k → s.intLeft > 0 → Step s .intLeave { s with intLeft := s.intLeft - 1 }
  | welcome {k} (n) : s.phase = .int k true →
      Step s (.welcome n) { s with phase := .nested k, hs := (List.range n).map (·, .spawned), log := s.log ++ [.welcomeApplied k] }
  | connEnter {k} (h) : (h, HState.spawned) ∈ s.hs → s.phase = .nested k →
      Step s (.hEnter h) { s with hs := setH s.hs h .running, log := s.log ++ [.connEnter k h] }
  | fgEnter {k} (h) : (h, HState.spawned) ∈ s.hs → s.phase = .fg k →
      Step s (.hEnter h) { s with hs := setH s.hs h .running, log := s.log ++ [.fgEnter k h s.applied] }
  | connExit {k} (h) : (h, HState.running) ∈ s.hs → s.phase = .nested k →
      Step s (.hLeave h) { s with hs := s.hs.filter (·.1 ≠ h), log := s.log ++ [.connExit k h] }
  | fgExit {k} (h) : (h, HState.running) ∈ s.hs → s.phase = .fg k →
      Step s (.hLeave h) { s with hs := s.hs.filter (·.1 ≠ h), log := s.log ++ [.fgExit k h s.applied] }
  | nestedJoin {k} : s.phase = .nested k → s.hs = [] → Step s .nestedJoin { s with phase := .int k false }
  | intJoin {k} : s.phase = .int k false → s.intLeft = 0 → Step s .intJoin { s with phase := .intDone k, applied := k + 1 }
  | spawnBg {k} (n) : s.phase = .intDone k →
      Step s (.spawnBg n) { s with phase := .fg k, hs := [], fgStarted := false, bg := s.bg ++ (List.range n).map (k, ·, .spawned) }
  | startFg {k} (n) : s.phase = .fg k → s.fgStarted = false →
      Step s (.startFg n) { s with hs := (List.range n).map (·, .spawned), fgStarted := true, log := s.log ++ [.fgStart k n] }
  | fgJoin {k} : s.phase = .fg k → s.hs = [] ∧ s.fgStarted = true →
      Step s .fgJoin { s with phase := .idle, fgStarted := false, log := s.log ++ [.fgDone k] }
  | bgEnter (k h) : (k, h, HState.spawned) ∈ s.bg →
      Step s (.bgEnter k h) { s with bg := s.bg.map (fun p => if p = (k, h, .spawned) then (k, h, .running) else p), log := s.log ++ [.bgEnter k h s.applied] }
  | bgLeave (k h) : (k, h, HState.running) ∈ s.bg → Step s (.bgLeave k h) { s with bg := s.bg.filter (· ≠ (k, h, .running)) }
  | beginClose : ¬ s.closing = true → Step s .beginClose { s with closing := true }
  | discard : s.closing = true ∧ s.qhead < s.recvd → Step s .discard { s with qhead := s.qhead + 1 }
  | loopExit : s.closing = true ∧ s.phase = .idle → Step s .loopExit { s with phase := .gone }
  | fireDisc : s.closing = true ∧ s.phase = .gone → Step s .fireDisc { s with discFired := true, log := s.log ++ [.discEnter] }
  | otherSpawn (n) : Step s (.otherSpawn n) { s with other := s.other + n }
  | otherLeave : s.other > 0 → Step s .otherLeave { s with other := s.other - 1 }

theorem Step.of_step {s l s'} (h : step s l = some s') : Step s l s' := by
  cases l <;> dsimp only [step] at h <;> (repeat' split at h) <;> cases h
  -- one goal per constructor of `Step`, in the order of the labels and, within a label, of the branches of `step`
  · exact .recv
  · exact .take _ _ ‹_›
  · exact .intLeave ‹_› ‹_›
  · exact .intLeaveN ‹_› ‹_›
  · exact .welcome _ ‹_›
  · exact .connEnter _ ‹_› ‹_›
  · exact .fgEnter _ ‹_› ‹_›
  · exact .connExit _ ‹_› ‹_›
  · exact .fgExit _ ‹_› ‹_›
  · exact .nestedJoin ‹_› ‹_›
  · exact .intJoin ‹_› ‹_›
  · exact .spawnBg _ ‹_›
  · exact .startFg _ ‹_› ‹_›
  · exact .fgJoin ‹_› ‹_›
  · exact .bgEnter _ _ ‹_›
  · exact .bgLeave _ _ ‹_›
  · exact .beginClose ‹_›
  · exact .discard ‹_›
  · exact .loopExit ‹_›
  · exact .fireDisc ‹_›
  · exact .otherSpawn _
  · exact .otherLeave ‹_›

/-- both sides compute to the same term -/
theorem step_set_bg (s : St) (b : List (Nat × Nat × HState)) (l : Label)
    (hl : match l with | .bgEnter _ _ => False | .bgLeave _ _ => False | .spawnBg _ => False | _ => True) :
    step { s with bg := b } l = (step s l).map ({ · with bg := b }) := by
  cases l with
  | bgEnter _ _ | bgLeave _ _ | spawnBg _ => exact hl.elim
  | _ => dsimp only [step]; (repeat' split) <;> rfl

theorem step_set_other (s : St) (n : Nat) (l : Label)
    (hl : match l with | .otherSpawn _ => False | .otherLeave => False | _ => True) :
    step { s with other := n } l = (step s l).map ({ · with other := n }) := by
  cases l with
  | otherSpawn _ | otherLeave => exact hl.elim
  | _ => dsimp only [step]; (repeat' split) <;> rfl

theorem trackerTiming_append (l₁ l₂ : List Obs) :
    trackerTiming (l₁ ++ l₂) = (trackerTiming l₁ && trackerTiming l₂) := by
  induction l₁ with
  | nil => rfl
  | cons x xs ih => cases x <;> simp [trackerTiming, ih, Bool.and_assoc]

theorem nothingAfterDisc_snoc (l : List Obs) (o : Obs) (d : Bool) :
    nothingAfterDisc (l ++ [o]) d =
      (nothingAfterDisc l d && ((rank o).isNone || !(d || l.contains .discEnter))) := by
  induction l generalizing d with
  | nil => cases o <;> cases d <;> rfl
  | cons x xs ih => cases x <;> simp [nothingAfterDisc, ih, Bool.and_assoc]

theorem connAfterWelcome_snoc {l : List Obs} {o : Obs} {seen : List Nat} :
    connAfterWelcome (l ++ [o]) seen = true ↔
      connAfterWelcome l seen = true ∧ ∀ k i, o = .connEnter k i → k ∈ seen ∨ .welcomeApplied k ∈ l := by
  induction l generalizing seen with
  | nil => cases o <;> simp [connAfterWelcome]
  | cons x xs ih => cases x <;> simp [connAfterWelcome, ih, and_assoc, or_assoc, or_left_comm]

theorem serial_iff_pairwise (l : List Obs) (acc : Option (Nat × Nat)) :
    serial l acc = true ↔ (acc.toList ++ l.filterMap rank).Pairwise (fun a b => le2 a b = true) := by
  induction l generalizing acc with
  | nil => cases acc <;> simp [serial]
  | cons o l ih =>
    cases hr : rank o with
    | none => simp [serial, hr, ih]
    | some r =>
      cases acc with
      | none => simp [serial, hr, ih]
      | some a =>
        simp only [serial, hr, Bool.and_eq_true, ih, Option.toList_some, List.filterMap_cons, List.singleton_append,
          List.pairwise_cons, List.mem_cons, forall_eq_or_imp]
        constructor
        · rintro ⟨h1, h2, h3⟩
          refine ⟨⟨h1, fun b hb => ?_⟩, h2, h3⟩
          have := h2 b hb
          simp only [le2, Bool.or_eq_true, Bool.and_eq_true, decide_eq_true_eq, beq_iff_eq] at *
          omega
        · rintro ⟨⟨h1, _⟩, h2, h3⟩
          exact ⟨h1, h2, h3⟩

theorem serial_snoc {l : List Obs} {o : Obs} (h : serial l none = true)
    (ho : ∀ r, rank o = some r → ∀ o' ∈ l, ∀ r', rank o' = some r' → le2 r' r = true) :
    serial (l ++ [o]) none = true := by
  rw [serial_iff_pairwise] at h ⊢
  cases hr : rank o with
  | none => simpa [hr] using h
  | some r =>
    simp only [Option.toList_none, List.nil_append, List.filterMap_append, List.filterMap_cons, hr, List.filterMap_nil,
      List.pairwise_append, List.pairwise_cons, List.Pairwise.nil, List.mem_filterMap, List.mem_singleton] at h ⊢
    refine ⟨h, by simp, ?_⟩
    rintro a ⟨o', ho', hr'⟩ b rfl
    exact ho _ hr o' ho' a hr'

/-- every ranked event in the log is lexicographically below `(a, b)` -/
def RB (log : List Obs) (a b : Nat) : Prop :=
  ∀ o ∈ log, ∀ r, rank o = some r → r.1 < a ∨ (r.1 = a ∧ r.2 < b)

theorem RB_nil (a b) : RB [] a b := by intro o ho; simp at ho

theorem RB_mono {log a b a' b'} (h : RB log a b) (hle : a < a' ∨ (a = a' ∧ b ≤ b')) : RB log a' b' := by
  intro o ho r hr
  have := h o ho r hr
  omega

theorem RB_snoc {log o a b} (h : RB log a b)
    (ho : ∀ r, rank o = some r → r.1 < a ∨ (r.1 = a ∧ r.2 < b)) : RB (log ++ [o]) a b :=
  List.forall_mem_append.2 ⟨h, List.forall_mem_singleton.2 ho⟩

def PhaseInv (s : St) : Prop :=
  match s.phase with
  | .idle => RB s.log s.qhead 0
  | .gone => RB s.log s.qhead 0
  | .int k w => k < s.qhead ∧ s.applied ≤ k ∧ RB s.log k (if w then 0 else 1)
  | .nested k => k < s.qhead ∧ s.applied ≤ k ∧ RB s.log k 1 ∧ Obs.welcomeApplied k ∈ s.log
  | .intDone k => k < s.qhead ∧ s.applied = k + 1 ∧ RB s.log k 1
  | .fg k => k < s.qhead ∧ s.applied = k + 1 ∧ RB s.log k 2

structure Inv (s : St) : Prop where
  ph : PhaseInv s
  app : s.applied ≤ s.qhead
  bg : ∀ p ∈ s.bg, p.1 + 1 ≤ s.applied
  disc : Obs.discEnter ∈ s.log → s.phase = .gone
  serial : serial s.log none = true
  caw : connAfterWelcome s.log [] = true
  nad : nothingAfterDisc s.log false = true
  tt : trackerTiming s.log = true

theorem inv_init : Inv {} := by
  constructor <;> simp [PhaseInv, RB_nil, Spec.Dispatch.serial, connAfterWelcome, nothingAfterDisc, trackerTiming]

theorem PhaseInv.mono {s s' : St} (h : PhaseInv s) (hp : s'.phase = s.phase) (ha : s'.applied = s.applied)
    (hq : s.qhead ≤ s'.qhead) (hl : s'.log = s.log ∨ ∃ o, rank o = none ∧ s'.log = s.log ++ [o]) : PhaseInv s' := by
  have hrb : ∀ {a b}, RB s.log a b → RB s'.log a b := fun h => by
    rcases hl with hl | ⟨o, ho, hl⟩ <;> rw [hl]
    · exact h
    · exact RB_snoc h (by simp [ho])
  have hw : ∀ {o}, o ∈ s.log → o ∈ s'.log := fun h => by
    rcases hl with hl | ⟨o, _, hl⟩ <;> rw [hl]
    · exact h
    · exact List.mem_append_left _ h
  revert h; simp only [PhaseInv, hp, ha]
  split <;> intro h
  · exact hrb (RB_mono h (by omega))
  · exact hrb (RB_mono h (by omega))
  · exact ⟨by omega, h.2.1, hrb h.2.2⟩
  · exact ⟨by omega, h.2.1, hrb h.2.2.1, hw h.2.2.2⟩
  · exact ⟨by omega, h.2.1, hrb h.2.2⟩
  · exact ⟨by omega, h.2.1, hrb h.2.2⟩

/-- Which event may be logged next: a ranked one lies above the ranks logged so far and comes before `runLoop` has left,
CONNECTED delivery (rank `(k, 0)`) after the welcome of line `k` is applied, DISCONNECTED only when `runLoop` has left; a
handler sees the right `applied` (`ht`). -/
theorem inv_snoc {s s' : St} {o : Obs} (h : Inv s) (hl : s'.log = s.log ++ [o]) (ph : PhaseInv s')
    (app : s'.applied ≤ s'.qhead) (bg : ∀ p ∈ s'.bg, p.1 + 1 ≤ s'.applied)
    (hd : o = .discEnter ∨ s.phase = .gone → s'.phase = .gone)
    (hr : ∀ k b, rank o = some (k, b) →
      RB s.log k (b + 1) ∧ s.phase ≠ .gone ∧ (b = 0 → .welcomeApplied k ∈ s.log))
    (ht : trackerTiming [o] = true) : Inv s' := by
  refine ⟨ph, app, bg, ?_, ?_, ?_, ?_, ?_⟩ <;> rw [hl]
  · intro hm
    rcases List.mem_append.1 hm with hm | hm
    · exact hd (.inr (h.disc hm))
    · exact hd (.inl (List.mem_singleton.1 hm).symm)
  · refine serial_snoc h.serial fun r hro o' ho' r' hr' => ?_
    have := (hr r.1 r.2 hro).1 o' ho' r' hr'
    simp only [le2, Bool.or_eq_true, Bool.and_eq_true, decide_eq_true_eq, beq_iff_eq]
    omega
  · exact connAfterWelcome_snoc.2 ⟨h.caw, fun k i e => .inr ((hr k 0 (e ▸ rfl)).2.2 rfl)⟩
  · rw [nothingAfterDisc_snoc, h.nad]
    cases hro : rank o with
    | none => rfl
    | some r => simpa using fun hm => (hr r.1 r.2 hro).2.1 (h.disc hm)
  · rw [trackerTiming_append, h.tt, ht]; rfl

theorem inv_step {s s' l} (h : Inv s) (hs : step s l = some s') : Inv s' := by
  have hph := h.ph
  cases Step.of_step hs with
  | recv | intLeave _ _ | intLeaveN _ _ | beginClose _ | otherSpawn | otherLeave _ => exact { h with }
  | take w n hc =>
    simp only [PhaseInv, hc.1] at hph
    exact { h with ph := ⟨Nat.lt_succ_self _, h.app, RB_mono hph (by omega)⟩, app := Nat.le_succ_of_le h.app,
                   disc := fun hd => absurd (h.disc hd) (by simp [hc.1]) }
  | @welcome k n hp =>
    simp only [PhaseInv, hp] at hph
    exact inv_snoc h rfl ⟨hph.1, hph.2.1, RB_snoc (RB_mono hph.2.2 (by simp)) nofun, by simp⟩ h.app h.bg
      (by simp [hp]) nofun rfl
  | @connEnter k i _ hp | @connExit k i _ hp =>
    simp only [PhaseInv, hp] at hph
    refine inv_snoc h rfl ?_ h.app h.bg (by simp [hp])
      (by rintro _ _ ⟨⟩; exact ⟨hph.2.2.1, by simp [hp], fun _ => hph.2.2.2⟩) rfl
    simp only [PhaseInv, hp]
    exact ⟨hph.1, hph.2.1, RB_snoc hph.2.2.1 (by rintro _ ⟨⟩; simp), by simp [hph.2.2.2]⟩
  | @fgEnter k i _ hp | @fgExit k i _ hp =>
    simp only [PhaseInv, hp] at hph
    refine inv_snoc h rfl ?_ h.app h.bg (by simp [hp])
      (by rintro _ _ ⟨⟩; exact ⟨hph.2.2, by simp [hp], nofun⟩) (by simp [trackerTiming, hph.2.1])
    simp only [PhaseInv, hp]
    exact ⟨hph.1, hph.2.1, RB_snoc hph.2.2 (by rintro _ ⟨⟩; simp)⟩
  | @nestedJoin k hp _ =>
    simp only [PhaseInv, hp] at hph
    exact { h with ph := ⟨hph.1, hph.2.1, hph.2.2.1⟩, disc := fun hd => absurd (h.disc hd) (by simp [hp]) }
  | @intJoin k hp _ =>
    simp only [PhaseInv, hp] at hph
    refine { h with ph := ⟨hph.1, rfl, hph.2.2⟩, app := hph.1, bg := fun p hp' => ?_,
                    disc := fun hd => absurd (h.disc hd) (by simp [hp]) }
    have := h.bg p hp'; show p.1 + 1 ≤ k + 1; omega
  | @spawnBg k n hp =>
    simp only [PhaseInv, hp] at hph
    refine { h with ph := ⟨hph.1, hph.2.1, RB_mono hph.2.2 (by omega)⟩, bg := fun p hp' => ?_,
                    disc := fun hd => absurd (h.disc hd) (by simp [hp]) }
    rcases List.mem_append.1 hp' with hp' | hp'
    · exact h.bg p hp'
    · obtain ⟨a, _, rfl⟩ := List.mem_map.1 hp'; exact Nat.le_of_eq hph.2.1.symm
  | @startFg k n hp _ =>
    exact inv_snoc h rfl (hph.mono rfl rfl (Nat.le_refl _) (.inr ⟨_, rfl, rfl⟩)) h.app h.bg (by simp [hp]) nofun rfl
  | @fgJoin k hp _ =>
    simp only [PhaseInv, hp] at hph
    have hrb : RB s.log s.qhead 0 := RB_mono hph.2.2 (by omega)
    exact inv_snoc h rfl (RB_snoc hrb nofun) h.app h.bg (by simp [hp]) nofun rfl
  | bgEnter k i hm =>
    have hk := h.bg _ hm
    refine inv_snoc h rfl (hph.mono rfl rfl (Nat.le_refl _) (.inr ⟨_, rfl, rfl⟩)) h.app (fun p hp' => ?_) (by simp)
      nofun (by simpa [trackerTiming] using hk)
    obtain ⟨q, hq, rfl⟩ := List.mem_map.1 hp'
    split
    · exact hk
    · exact h.bg q hq
  | bgLeave k i _ =>
    exact { h with bg := fun p hp' => h.bg p (List.mem_filter.1 hp').1 }
  | discard _ =>
    exact { h with ph := hph.mono rfl rfl (Nat.le_succ _) (.inl rfl), app := Nat.le_succ_of_le h.app }
  | loopExit hc =>
    simp only [PhaseInv, hc.2] at hph
    exact { h with ph := hph, disc := fun _ => rfl }
  | fireDisc hc =>
    exact inv_snoc h rfl (hph.mono rfl rfl (Nat.le_refl _) (.inr ⟨_, rfl, rfl⟩)) h.app h.bg (fun _ => hc.2) nofun rfl

theorem inv_reach {s} (h : Reach s) : Inv s := by
  induction h with
  | init => exact inv_init
  | step _ hs ih => exact inv_step ih hs

theorem delivery_ok {s} (h : Reach s) : ok s.log = true := by
  have := inv_reach h
  simp [ok, this.serial, this.caw, this.nad, this.tt]

def fgLine : Obs → Option Nat
  | .fgEnter k _ _ => some k
  | .fgExit k _ _ => some k
  | .fgStart k _ => some k
  | .fgDone k => some k
  | _ => none

/-- every foreground event in the log belongs to a line below `a` -/
def FB (log : List Obs) (a : Nat) : Prop := ∀ o ∈ log, ∀ k, fgLine o = some k → k < a

def isEnter (k i : Nat) : Obs → Bool := fun o => match o with | .fgEnter k' h' _ => k' = k ∧ h' = i | _ => false
def isExit (k i : Nat) : Obs → Bool := fun o => match o with | .fgExit k' h' _ => k' = k ∧ h' = i | _ => false
/-- how often handler `i` of line `k` has entered / left (the counts of `Props.C03.fg_exactly_once`) -/
def cE (log : List Obs) (k i : Nat) : Nat := (log.filter (isEnter k i)).length
def cX (log : List Obs) (k i : Nat) : Nat := (log.filter (isExit k i)).length

theorem cE_snoc (log o k i) : cE (log ++ [o]) k i = cE log k i + (if isEnter k i o then 1 else 0) := by
  simp only [cE, ← List.countP_eq_length_filter, List.countP_append, List.countP_singleton]

theorem cX_snoc (log o k i) : cX (log ++ [o]) k i = cX log k i + (if isExit k i o then 1 else 0) := by
  simp only [cX, ← List.countP_eq_length_filter, List.countP_append, List.countP_singleton]

theorem fgLine_of_isEnter {k i o} (h : isEnter k i o = true) : fgLine o = some k := by
  cases o <;> simp_all [isEnter, fgLine]

theorem fgLine_of_isExit {k i o} (h : isExit k i o = true) : fgLine o = some k := by
  cases o <;> simp_all [isExit, fgLine]

theorem cE_snoc_other {log o k} (ho : fgLine o ≠ some k) (i) : cE (log ++ [o]) k i = cE log k i := by
  rw [cE_snoc, if_neg (fun h => ho (fgLine_of_isEnter h))]; rfl

theorem cX_snoc_other {log o k} (ho : fgLine o ≠ some k) (i) : cX (log ++ [o]) k i = cX log k i := by
  rw [cX_snoc, if_neg (fun h => ho (fgLine_of_isExit h))]; rfl

theorem mem_snoc_other {log : List Obs} {o o' : Obs} (h : fgLine o ≠ fgLine o') : o' ∈ log ++ [o] ↔ o' ∈ log := by
  simp only [List.mem_append, List.mem_singleton, or_iff_left_iff_imp]
  rintro rfl; exact absurd rfl h

theorem cE_zero_of_FB {log k i} (h : FB log k) : cE log k i = 0 := by
  simp only [cE, List.length_eq_zero_iff, List.filter_eq_nil_iff]
  exact fun o ho he => Nat.lt_irrefl k (h o ho k (fgLine_of_isEnter he))

theorem cX_zero_of_FB {log k i} (h : FB log k) : cX log k i = 0 := by
  simp only [cX, List.length_eq_zero_iff, List.filter_eq_nil_iff]
  exact fun o ho he => Nat.lt_irrefl k (h o ho k (fgLine_of_isExit he))

def Complete (log : List Obs) (k : Nat) : Prop :=
  ∀ n, Obs.fgStart k n ∈ log → ∀ i, i < n → cE log k i = 1 ∧ cX log k i = 1

theorem complete_snoc {log o k} (h : Complete log k) (ho : fgLine o ≠ some k) : Complete (log ++ [o]) k := by
  intro n hn i hi
  rw [cE_snoc_other ho, cX_snoc_other ho]
  exact h n ((mem_snoc_other (o' := .fgStart k n) ho).1 hn) i hi

theorem complete_of_FB {log k a} (h : FB log a) (hk : a ≤ k) : Complete log k := by
  intro n hn
  have := h _ hn k rfl
  omega

/-- the state of handler i of line k's snapshot agrees with what the log says about it -/
def D (hs : List (Nat × HState)) (log : List Obs) (k i : Nat) : Prop :=
  ((i, HState.spawned) ∈ hs ∧ (i, HState.running) ∉ hs ∧ cE log k i = 0 ∧ cX log k i = 0) ∨
  ((i, HState.running) ∈ hs ∧ (i, HState.spawned) ∉ hs ∧ cE log k i = 1 ∧ cX log k i = 0) ∨
  ((i, HState.spawned) ∉ hs ∧ (i, HState.running) ∉ hs ∧ cE log k i = 1 ∧ cX log k i = 1)

/-- the foreground phase of line k after its snapshot has been spawned -/
def Cur (s : St) (k : Nat) : Prop :=
  ∃ n, Obs.fgStart k n ∈ s.log ∧ (∀ n', Obs.fgStart k n' ∈ s.log → n' = n) ∧ Obs.fgDone k ∉ s.log ∧
    (∀ p ∈ s.hs, p.1 < n) ∧ ∀ i, i < n → D s.hs s.log k i

/-- the first line of which the log holds no foreground event yet (`Inv2.fb`) -/
def front (s : St) : Nat :=
  match s.phase with
  | .idle => s.qhead
  | .gone => s.qhead
  | .int k _ => k
  | .nested k => k
  | .intDone k => k
  | .fg k => if s.fgStarted then k + 1 else k

/-- the line in hand has left the queue: the first conjunct of every case of `PhaseInv`. `Inv2` needs it at `fgJoin`,
where `front` goes from `k + 1` to `qhead`. -/
def lineOK (s : St) : Prop :=
  match s.phase with
  | .idle => True
  | .gone => True
  | .int k _ => k < s.qhead
  | .nested k => k < s.qhead
  | .intDone k => k < s.qhead
  | .fg k => k < s.qhead

/-- The fork/join bookkeeping. Of `Inv` it needs `line` only, which `inv2_step` is handed for the successor state
(`inv2_reach` reads it off `Inv` there, `lineOK_of_inv`). -/
structure Inv2 (s : St) : Prop where
  line : lineOK s
  /-- no foreground event of line `front s` or a later one is in the log -/
  fb : FB s.log (front s)
  /-- in the foreground phase of line `k`: before `startFg` no handler is outstanding, after it `Cur` keeps the books -/
  cur : ∀ k, s.phase = .fg k → if s.fgStarted then Cur s k else s.hs = []
  /-- every line but the one whose snapshot is running is complete (trivially so if it has not started) -/
  complete : ∀ k, ¬ (s.phase = .fg k ∧ s.fgStarted = true) → Complete s.log k
  /-- a foreground handler that entered belongs to the snapshot of its line -/
  snap : ∀ k i a, Obs.fgEnter k i a ∈ s.log → ∃ n, Obs.fgStart k n ∈ s.log ∧ i < n

theorem lineOK_of_inv {s : St} (h : Inv s) : lineOK s := by
  have := h.ph
  unfold PhaseInv at this
  unfold lineOK
  split <;> simp_all

theorem FB_mono {log a b} (h : FB log a) (hab : a ≤ b) : FB log b := by
  intro o ho k hk; have := h o ho k hk; omega

theorem FB_snoc {log o a} (h : FB log a) (ho : ∀ k, fgLine o = some k → k < a) : FB (log ++ [o]) a :=
  List.forall_mem_append.2 ⟨h, List.forall_mem_singleton.2 ho⟩

theorem mem_setH {hs : List (Nat × HState)} {h x i st} :
    (i, st) ∈ setH hs h x ↔ (i ≠ h ∧ (i, st) ∈ hs) ∨ (i = h ∧ st = x ∧ ∃ st', (h, st') ∈ hs) := by
  simp only [setH, List.mem_map]
  constructor
  · rintro ⟨⟨j, t⟩, hm, he⟩
    by_cases e : j = h
    · subst e; simp at he; right; exact ⟨he.1.symm, he.2.symm, t, hm⟩
    · simp [e] at he; left; obtain ⟨rfl, rfl⟩ := he; exact ⟨e, hm⟩
  · rintro (⟨hne, hm⟩ | ⟨rfl, rfl, t, hm⟩)
    · exact ⟨(i, st), hm, by simp [hne]⟩
    · exact ⟨(i, t), hm, by simp⟩

theorem inv2_init : Inv2 {} := by
  constructor
  · simp [lineOK]
  · intro o ho; simp at ho
  · intro k hk; simp at hk
  · intro k _ n hn; simp at hn
  · intro k i a h; simp at h

theorem snap_snoc {log : List Obs} {o : Obs}
    (h : ∀ k i a, Obs.fgEnter k i a ∈ log → ∃ n, Obs.fgStart k n ∈ log ∧ i < n)
    (ho : ∀ k i a, o = .fgEnter k i a → ∃ n, Obs.fgStart k n ∈ log ∧ i < n) :
    ∀ k i a, Obs.fgEnter k i a ∈ log ++ [o] → ∃ n, Obs.fgStart k n ∈ log ++ [o] ∧ i < n := by
  intro k i a hm
  obtain ⟨n, hn, hi⟩ : ∃ n, Obs.fgStart k n ∈ log ∧ i < n := by
    rcases List.mem_append.1 hm with hm | hm
    · exact h k i a hm
    · exact ho k i a (List.mem_singleton.1 hm).symm
  exact ⟨n, List.mem_append_left _ hn, hi⟩

theorem cur_handler {s : St} {k : Nat} {o : Obs} {hs' : List (Nat × HState)} (h : Cur s k)
    (hS : ∀ n, o ≠ .fgStart k n) (hDn : o ≠ .fgDone k) (hb : ∀ p ∈ hs', ∃ st, (p.1, st) ∈ s.hs)
    (hD : ∀ i, D s.hs s.log k i → D hs' (s.log ++ [o]) k i) : Cur { s with hs := hs', log := s.log ++ [o] } k := by
  obtain ⟨n, h1, h2, h3, h4, h5⟩ := h
  refine ⟨n, List.mem_append_left _ h1, fun n' hn' => ?_, fun hd => ?_, fun p hp => ?_, fun i hi => hD i (h5 i hi)⟩
  · rcases List.mem_append.1 hn' with hn' | hn'
    · exact h2 n' hn'
    · exact absurd (List.mem_singleton.1 hn').symm (hS n')
  · rcases List.mem_append.1 hd with hd | hd
    · exact h3 hd
    · exact hDn (List.mem_singleton.1 hd).symm
  · obtain ⟨st, hst⟩ := hb p hp
    exact h4 (p.1, st) hst

theorem cur_snoc {s : St} {o k} (h : Cur s k) (ho : fgLine o ≠ some k) : Cur { s with log := s.log ++ [o] } k :=
  cur_handler h (fun n e => ho (e ▸ rfl)) (fun e => ho (e ▸ rfl)) (fun p hp => ⟨p.2, hp⟩) fun i hD => by
    rw [D, cE_snoc_other ho, cX_snoc_other ho]; exact hD

theorem inv2_log {s : St} {o : Obs} (h : Inv2 s) (ho : fgLine o = none) : Inv2 { s with log := s.log ++ [o] } := by
  have ho' : ∀ k, fgLine o ≠ some k := fun k e => by simp [ho] at e
  refine ⟨h.line, FB_snoc h.fb (by simp [ho]), fun k hk => ?_, fun k hk => complete_snoc (h.complete k hk) (ho' k),
    snap_snoc h.snap fun k i a e => absurd (e ▸ ho) nofun⟩
  have := h.cur k hk
  cases hst : s.fgStarted
  · simpa [hst] using this
  · simp only [hst, if_true] at this ⊢
    exact cur_snoc this (ho' k)

theorem inv2_nonfg {s s' : St} (h : Inv2 s) (hp : ∀ k, s.phase ≠ .fg k) (hp' : ∀ k, s'.phase ≠ .fg k)
    (hline : lineOK s') (hfront : front s ≤ front s') (hl : s'.log = s.log) : Inv2 s' :=
  ⟨hline, hl ▸ FB_mono h.fb hfront, fun k hk => absurd hk (hp' k), fun k _ => hl ▸ h.complete k fun hk => hp k hk.1,
    hl ▸ h.snap⟩

theorem front_mono {s s' : St} (hp : s'.phase = s.phase) (hf : s'.fgStarted = s.fgStarted) (hq : s.qhead ≤ s'.qhead) :
    front s ≤ front s' := by
  simp only [front, hp, hf]
  split <;> omega

theorem Inv2.started {s k i st} (h : Inv2 s) (hp : s.phase = .fg k) (hm : (i, st) ∈ s.hs) :
    s.fgStarted = true ∧ Cur s k := by
  have hcur := h.cur k hp
  cases hf : s.fgStarted
  · simp [hf] at hcur; simp [hcur] at hm
  · simpa [hf] using hcur

theorem inv2_fg {s s' : St} {k : Nat} {o : Obs} (h : Inv2 s) (hline : lineOK s') (hp : s.phase = .fg k)
    (hp' : s'.phase = .fg k) (hst' : s'.fgStarted = true) (hl : s'.log = s.log ++ [o]) (ho : fgLine o = some k)
    (hsnap : ∀ i a, o = .fgEnter k i a → ∃ n, .fgStart k n ∈ s.log ∧ i < n) (hcur : Cur s' k) : Inv2 s' := by
  have hfb : FB s.log (k + 1) := FB_mono h.fb (by simp only [front, hp]; split <;> omega)
  refine ⟨hline, ?_, fun k' hk' => ?_, fun k' hk' => ?_, hl ▸ snap_snoc h.snap fun k' i a e => ?_⟩
  · simp only [front, hp', hst', if_true, hl]
    exact FB_snoc hfb (fun k' e => by cases ho.symm.trans e; exact Nat.lt_succ_self _)
  · cases hp'.symm.trans hk'; simpa [hst'] using hcur
  · have hne : k ≠ k' := fun e => hk' ⟨e ▸ hp', hst'⟩
    rw [hl]
    exact complete_snoc (h.complete k' (fun ⟨e, _⟩ => hne (Phase.fg.inj (hp.symm.trans e)))) (ho ▸ fun e => hne (Option.some.inj e))
  · cases e; cases Option.some.inj ho; exact hsnap i a rfl

theorem D_enter {hs log k i a j} (hm : (i, HState.spawned) ∈ hs) (h : D hs log k j) :
    D (setH hs i .running) (log ++ [.fgEnter k i a]) k j := by
  by_cases e : j = i
  · subst e
    have hr : (j, HState.running) ∉ hs ∧ cE log k j = 0 ∧ cX log k j = 0 := by
      rcases h with h | h | h
      · exact h.2
      · exact absurd hm h.2.1
      · exact absurd hm h.1
    refine .inr (.inl ⟨mem_setH.2 (.inr ⟨rfl, rfl, _, hm⟩), by simp [mem_setH], ?_, ?_⟩)
    · simp [cE_snoc, isEnter, hr.2.1]
    · simp [cX_snoc, isExit, hr.2.2]
  · have e' : ¬ i = j := fun x => e x.symm
    simpa [D, mem_setH, e, cE_snoc, cX_snoc, isEnter, isExit, e'] using h

theorem D_exit {hs log k i a j} (hm : (i, HState.running) ∈ hs) (h : D hs log k j) :
    D (hs.filter (·.1 ≠ i)) (log ++ [.fgExit k i a]) k j := by
  by_cases e : j = i
  · subst e
    have hr : cE log k j = 1 ∧ cX log k j = 0 := by
      rcases h with h | h | h
      · exact absurd hm h.2.1
      · exact h.2.2
      · exact absurd hm h.2.1
    refine .inr (.inr ⟨by simp, by simp, ?_, ?_⟩)
    · simp [cE_snoc, isEnter, hr.1]
    · simp [cX_snoc, isExit, hr.2]
  · have e' : ¬ i = j := fun x => e x.symm
    simpa [D, e, cE_snoc, cX_snoc, isEnter, isExit, e'] using h

theorem inv2_step {s s' l} (h : Inv2 s) (hs : step s l = some s') (hline : lineOK s') : Inv2 s' := by
  cases Step.of_step hs with
  | recv | intLeave _ _ | intLeaveN _ _ | bgLeave _ _ _ | beginClose _ | otherSpawn | otherLeave _ => exact { h with }
  | bgEnter _ _ _ | fireDisc _ => exact { inv2_log h rfl with }
  | discard _ => exact { h with line := hline, fb := FB_mono h.fb (front_mono rfl rfl (Nat.le_succ _)) }
  | take w n hc => exact inv2_nonfg h (by simp [hc.1]) nofun hline (by simp [front, hc.1]) rfl
  | @welcome k n hp => exact inv2_nonfg (inv2_log h rfl) (by simp [hp]) nofun hline (by simp [front, hp]) rfl
  | @connEnter k i _ hp | @connExit k i _ hp =>
    exact inv2_nonfg (inv2_log h rfl) (by simp [hp]) (by simp [hp]) hline (by simp [front, hp]) rfl
  | @nestedJoin k hp _ | @intJoin k hp _ => exact inv2_nonfg h (by simp [hp]) nofun hline (by simp [front, hp]) rfl
  | loopExit hc => exact inv2_nonfg h (by simp [hc.2]) nofun hline (by simp [front, hc.2]) rfl
  | @spawnBg k n hp =>
    exact ⟨hline, by simpa [front, hp] using h.fb, fun _ _ => rfl, fun k' _ => h.complete k' (by simp [hp]), h.snap⟩
  | @fgEnter k i hm hp =>
    obtain ⟨hst, hcur⟩ := h.started hp hm
    refine inv2_fg h hline hp hp hst rfl rfl ?_ (cur_handler hcur nofun nofun ?_ fun j => D_enter hm)
    · rintro _ _ ⟨⟩
      obtain ⟨n, h1, _, _, h4, _⟩ := hcur
      exact ⟨n, h1, h4 _ hm⟩
    · rintro ⟨j, st⟩ hp'
      rcases mem_setH.1 hp' with ⟨_, hp'⟩ | ⟨rfl, _, st', hp'⟩
      · exact ⟨_, hp'⟩
      · exact ⟨_, hp'⟩
  | @fgExit k i hm hp =>
    obtain ⟨hst, hcur⟩ := h.started hp hm
    exact inv2_fg h hline hp hp hst rfl rfl nofun
      (cur_handler hcur nofun nofun (fun p hp' => ⟨_, (List.mem_filter.1 hp').1⟩) fun j => D_exit hm)
  | @startFg k n hp hst =>
    have hfb : FB s.log k := by simpa [front, hp, hst] using h.fb
    refine inv2_fg h hline hp hp rfl rfl rfl nofun
      ⟨n, by simp, fun n' hn' => ?_, ?_, ?_, fun i hi => .inl ⟨by simp [hi], by simp, ?_, ?_⟩⟩
    · rcases List.mem_append.1 hn' with hn' | hn'
      · exact absurd (hfb _ hn' k rfl) (Nat.lt_irrefl k)
      · simpa using hn'
    · simp; exact fun hd => absurd (hfb _ hd k rfl) (Nat.lt_irrefl k)
    · intro p hp'; simp at hp'; obtain ⟨a, ha, rfl⟩ := hp'; exact ha
    · simp [cE_snoc, isEnter, cE_zero_of_FB hfb]
    · simp [cX_snoc, isExit, cX_zero_of_FB hfb]
  | @fgJoin k hp hc =>
    obtain ⟨n, h1, h2, h3, h4, h5⟩ : Cur s k := by simpa [hc.2] using h.cur k hp
    have hk : k < s.qhead := by simpa [lineOK, hp] using h.line
    have hfb : FB s.log (k + 1) := by simpa [front, hp, hc.2] using h.fb
    have hall : ∀ k', Complete s.log k' := by
      intro k'
      by_cases e : k' = k
      · subst e
        intro n' hn' i hi
        have := h5 i (h2 n' hn' ▸ hi)
        simpa [D, hc.1] using this
      · exact h.complete k' (by simp [hp]; intro e'; exact absurd e'.symm e)
    have hfb' : FB (s.log ++ [.fgDone k]) s.qhead := FB_snoc (FB_mono hfb hk) (by simp [fgLine]; omega)
    refine ⟨hline, hfb', nofun, fun k' _ n' hn' i hi => ?_, snap_snoc h.snap nofun⟩
    have := hall k' n' (by simpa using hn') i hi
    simpa [cE_snoc, cX_snoc, isEnter, isExit] using this

theorem inv2_reach {s} (h : Reach s) : Inv2 s := by
  induction h with
  | init => exact inv2_init
  | step hr hs ih => exact inv2_step ih hs (lineOK_of_inv (inv_reach (hr.step hs)))

end Proofs.C03
