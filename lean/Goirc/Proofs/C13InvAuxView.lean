import Goirc.Proofs.C13Ops
/-!
# C13, invariant of the model network: the view part, over an abstract ground truth

`VInv me on v`: the view `v` shows exactly what the membership relation `on` (nick, channel) makes visible to `me`.  Such a
view is a safe tracker state (`VInv.safe`), and in a safe state the nicks are the client and whoever has a membership, so
they are right once the memberships are (`VInv.of_safe`): where the view's rule is one of the tracker's removals, the
removal's `SafeS` lemma does the nicks.  Each `VInv.x` below is one way `serverStep` updates the view, against the matching
change of `on`.
-/
namespace Proofs.C13
open Go Go.Tracker Spec.Tracker Spec.Net

structure VInv (me : Bytes) (on : Bytes → Bytes → Bool) (v : S) : Prop where
  me_eq : v.me = me
  chans : ∀ c, AL.has v.chans c = on me c
  mem : ∀ c u, AL.has v.mem (c, u) = (on me c && on u c)
  nicks : ∀ u, AL.has v.nicks u = true ↔ (u = me ∨ ∃ c, on u c = true ∧ on me c = true)
  mem_nodup : (AL.keys v.mem).Nodup

theorem VInv.safe {me : Bytes} {on : Bytes → Bytes → Bool} {v : S} (h : VInv me on v) : SafeS v := by
  refine ⟨(h.nicks _).2 (.inl h.me_eq), fun c hc => ?_, fun u hu => ?_, fun c u hm => ?_⟩
  · rw [h.chans] at hc
    rw [h.me_eq, h.mem, hc]; rfl
  · rw [h.me_eq]
    exact ((h.nicks u).1 hu).imp id fun ⟨c, h1, h2⟩ => ⟨c, by rw [h.mem, h1, h2]; rfl⟩
  · rw [h.mem, Bool.and_eq_true] at hm
    exact ⟨by rw [h.chans]; exact hm.1, (h.nicks u).2 (.inr ⟨c, hm.2, hm.1⟩)⟩

theorem VInv.of_safe {me : Bytes} {on : Bytes → Bytes → Bool} {v : S} (hs : SafeS v) (hme : v.me = me)
    (hc : ∀ c, AL.has v.chans c = on me c) (hm : ∀ c u, AL.has v.mem (c, u) = (on me c && on u c))
    (nd : (AL.keys v.mem).Nodup) : VInv me on v := by
  refine ⟨hme, hc, hm, fun u => ⟨fun hu => ?_, ?_⟩, nd⟩
  · refine (hs.nick_chan u hu).imp (fun e => e.trans hme) fun ⟨c, h1⟩ => ?_
    rw [hm, Bool.and_eq_true] at h1
    exact ⟨c, h1.2, h1.1⟩
  · rintro (rfl | ⟨c, h1, h2⟩)
    · rw [← hme]; exact hs.me
    · exact (hs.wfs c u (by rw [hm, h1, h2]; rfl)).2

/-- only what `me` can see matters -/
theorem VInv.congr {me : Bytes} {on on' : Bytes → Bytes → Bool} {v : S} (h : VInv me on v)
    (h1 : ∀ c, on' me c = on me c) (h2 : ∀ u c, on me c = true → on' u c = on u c) : VInv me on' v := by
  refine .of_safe h.safe h.me_eq (fun c => by rw [h.chans, h1]) (fun c u => ?_) h.mem_nodup
  rw [h.mem, h1]
  cases hc : on me c
  · rfl
  · rw [h2 u c hc]

def addMember (c u : Bytes) (x : SNick) (p : ChanPrivs) (v : S) : S :=
  let v1 : S := if AL.has v.nicks u then v else { v with nicks := AL.insert v.nicks u x }
  { v1 with mem := AL.insert v1.mem (c, u) p }

section
variable (c u : Bytes) (x : SNick) (p : ChanPrivs) (v : S)
theorem addMember_chans : (addMember c u x p v).chans = v.chans := by
  simp only [addMember]; split <;> rfl
theorem addMember_me : (addMember c u x p v).me = v.me := by
  simp only [addMember]; split <;> rfl
theorem addMember_mem : (addMember c u x p v).mem = AL.insert v.mem (c, u) p := by
  simp only [addMember]; split <;> rfl
theorem addMember_nicks (k : Bytes) :
    AL.lookup (addMember c u x p v).nicks k =
      if AL.has v.nicks u then AL.lookup v.nicks k else if u = k then some x else AL.lookup v.nicks k := by
  simp only [addMember]; split <;> simp [AL.lookup_insert]
theorem addMember_has_nicks (w : Bytes) :
    AL.has (addMember c u x p v).nicks w = (AL.has v.nicks w || decide (u = w)) := by
  rw [AL.has_eq, addMember_nicks]
  by_cases e : u = w
  · subst e
    cases h : AL.has v.nicks u
    · simp
    · simp [← AL.has_eq, h]
  · simp [e, AL.has_eq]
end

theorem VInv.join_other {me : Bytes} {on on' : Bytes → Bytes → Bool} {v : S} (h : VInv me on v)
    {u c : Bytes} (hc : on me c = true) (hu : u ≠ me) (x : SNick) (p : ChanPrivs)
    (h' : ∀ w c', on' w c' = (on w c' || (decide (w = u) && decide (c' = c)))) :
    VInv me on' (addMember c u x p v) := by
  have hme : ∀ c', on' me c' = on me c' := by intro c'; rw [h']; simp [Ne.symm hu]
  refine ⟨(addMember_me ..).trans h.me_eq, fun c' => by rw [addMember_chans, hme, h.chans], fun c' w => ?_, fun w => ?_, ?_⟩
  · rw [addMember_mem, AL.has_insert, h.mem, hme, h']
    grind
  · rw [addMember_has_nicks, Bool.or_eq_true, h.nicks]
    simp only [hme, h', decide_eq_true_eq, Bool.or_eq_true, Bool.and_eq_true]
    constructor
    · rintro ((h3 | ⟨c', h3, h4⟩) | h3)
      · exact Or.inl h3
      · exact Or.inr ⟨c', Or.inl h3, h4⟩
      · exact Or.inr ⟨c, Or.inr ⟨h3.symm, rfl⟩, hc⟩
    · rintro (h3 | ⟨c', h3 | h3, h4⟩)
      · exact Or.inl (Or.inl h3)
      · exact Or.inl (Or.inr ⟨c', h3, h4⟩)
      · exact Or.inr h3.1.symm
  · rw [addMember_mem]; exact AL.nodup_insert h.mem_nodup _ _

theorem VInv.keq {me : Bytes} {on : Bytes → Bytes → Bool} {v r : S} (h : VInv me on v) (k : Keq v r) : VInv me on r :=
  ⟨by rw [k.me, h.me_eq], fun c => by rw [k.has_chans, h.chans], fun c u => by rw [k.has_mem, h.mem],
   fun u => by rw [k.has_nicks, h.nicks], by rw [k.mem]; exact h.mem_nodup⟩

theorem Keq_viewApplyChange (c : Bytes) (v : S) (chg : ModeChange) : Keq v (viewApplyChange v c chg) := by
  cases chg with
  | flag | key | limit =>
    simp only [Spec.Net.viewApplyChange]
    split
    · exact Keq.set_chan v c _ (AL.has_of_lookup ‹_›)
    · exact Keq.refl v
  | priv a l u =>
    simp only [Spec.Net.viewApplyChange]
    split
    · exact Keq.set_mem v _ _ (AL.has_of_lookup ‹_›)
    · exact Keq.refl v
  | ban => exact Keq.refl v

/-- the view's rule for one line of a WHO reply -/
def whoStep (users : List (Bytes × NUser)) (acc : S) (mp : Bytes × ChanPrivs) : S :=
  if mp.1 == acc.me then acc else
  match AL.lookup acc.nicks mp.1, AL.lookup users mp.1 with
  | some r, some x => { acc with nicks := AL.insert acc.nicks mp.1 { r with ident := x.ident, host := x.host, name := x.real } }
  | _, _ => acc

theorem Keq_whoStep (users : List (Bytes × NUser)) (v : S) (mp : Bytes × ChanPrivs) : Keq v (whoStep users v mp) := by
  unfold whoStep
  split
  · exact Keq.refl v
  · split
    · exact Keq.set_nick v _ _ (AL.has_of_lookup ‹_›)
    · exact Keq.refl v

/-- a visible QUIT is the tracker's `dropNick` on the view -/
theorem VInv.quit {me : Bytes} {on on' : Bytes → Bytes → Bool} {v : S} (h : VInv me on v)
    {u : Bytes} (hu : u ≠ me) (h' : ∀ w c', on' w c' = (on w c' && !decide (w = u))) :
    VInv me on' { v with nicks := AL.erase v.nicks u, mem := v.mem.filter (fun m => m.1.2 != u) } := by
  have hu' : u ≠ v.me := h.me_eq ▸ hu
  have e : ({ v with nicks := AL.erase v.nicks u, mem := v.mem.filter (fun m => m.1.2 != u) } : S) = dropNick v u := by
    rw [dropNick, if_neg (by simpa using hu')]
  rw [e]
  have hme : ∀ c', on' me c' = on me c' := by intro c'; rw [h']; simp [Ne.symm hu]
  refine .of_safe (SafeS_dropNick v u hu' h.safe) ((dropNick_me v u).trans h.me_eq) (fun c => ?_) (fun c w => ?_) ?_
  · rw [dropNick_chans, hme, h.chans]
  · have hm := h.mem c w
    rw [AL.has_eq] at hm ⊢
    rw [dropNick_mem v u c w hu', hme, h']; grind
  · rw [← e]; exact AL.nodup_filter h.mem_nodup _

/-- the guards of `dissociate` on the view, for somebody on a channel the client is on -/
theorem VInv.guards {me : Bytes} {on : Bytes → Bytes → Bool} {v : S} (h : VInv me on v) {u c : Bytes}
    (hc : on me c = true) (hu : on u c = true) :
    (AL.has v.chans c && AL.has v.nicks u && AL.has v.mem (c, u)) = true := by
  rw [h.chans, h.mem, hc, hu, (h.nicks u).2 (Or.inr ⟨c, hu, hc⟩)]; rfl

/-- a visible PART or KICK is the tracker's `dissociate` on the view: `dropChan` if it is the client that leaves,
`sdissoc1` otherwise -/
theorem VInv.leave {me : Bytes} {on on' : Bytes → Bytes → Bool} {v : S} (h : VInv me on v)
    {u c : Bytes} (hc : on me c = true) (hu : on u c = true)
    (h' : ∀ w c', on' w c' = (on w c' && !(decide (c' = c) && decide (w = u)))) :
    VInv me on' (viewLeave v u c) := by
  have g := h.guards hc hu
  have e := h.me_eq
  rw [← sx_dissociate_eq_viewLeave v c u g, sx_dissociate, if_pos g]
  split
  · rename_i hme
    rw [beq_iff_eq] at hme; subst hme
    refine .of_safe (SafeS_dropChan v c h.safe) ((dropChan_me v c).trans e) (fun c' => ?_) (fun c' w => ?_) ?_
    · rw [AL.has_eq, dropChan_chans, h', ← h.chans, AL.has_eq, e]; grind
    · have hm := h.mem c' w
      rw [AL.has_eq] at hm ⊢
      rw [dropChan_mem, h', h']; grind
    · rw [dropChan_closed]; exact AL.nodup_filter h.mem_nodup _
  · rename_i hme
    have hme' : u ≠ v.me := fun e' => hme (beq_iff_eq.2 e')
    refine .of_safe (SafeS_sdissoc1 v c u hme' h.safe) ((sdissoc1_me v c u).trans e) (fun c' => ?_) (fun c' w => ?_) ?_
    · rw [sdissoc1_chans, h.chans, h']; grind
    · have hm := h.mem c' w
      rw [AL.has_eq] at hm ⊢
      rw [sdissoc1_mem, h', h']; grind
    · rw [sdissoc1_eq]; exact AL.nodup_filter h.mem_nodup _

/-- a visible NICK is the tracker's `reNick` on the view -/
theorem VInv.nick {me : Bytes} {on on' : Bytes → Bytes → Bool} {v : S} (h : VInv me on v)
    {u nw : Bytes} {r : SNick} (hfresh : ∀ c, on nw c = false) (hnm : nw ≠ me)
    (hr : AL.lookup v.nicks u = some r)
    (h' : ∀ w c, on' w c = if w = nw then on u c else if w = u then false else on w c) :
    VInv (if u == me then nw else me) on' (renamed v u nw r) := by
  have hnew : AL.has v.nicks nw = false := by
    rw [Bool.eq_false_iff, ne_eq, h.nicks]; simp [hnm, hfresh]
  have hme : ∀ c, on' (if u == me then nw else me) c = on me c := by
    intro c; rw [h']
    by_cases h1 : u = me
    · subst h1; simp
    · have : ¬ me = u := fun h2 => h1 h2.symm
      simp [h1, this, Ne.symm hnm]
  have hfree : ∀ e ∈ v.mem, e.1.2 ≠ nw := fun e he h1 => by
    have := (h.safe.wfs e.1.1 e.1.2 (AL.has_of_mem he)).2
    rw [h1, hnew] at this; cases this
  refine .of_safe (SafeS_renamed v u nw r hr hnew h.safe) ?_ (fun c => by rw [hme]; exact h.chans c) (fun c w => ?_)
    (nodup_renKey v.mem hfree h.mem_nodup)
  · rw [renamed_me, h.me_eq]
    by_cases h1 : u = me
    · rw [if_pos h1.symm, if_pos (beq_iff_eq.2 h1)]
    · rw [if_neg (fun e => h1 e.symm), if_neg (fun e => h1 (beq_iff_eq.1 e))]
  · rw [AL.has_eq, renamed_mem v u nw r hnew h.safe.wfs, hme, h']
    split
    · rw [← AL.has_eq, h.mem]
    · split
      · simp
      · rw [← AL.has_eq, h.mem]

/-- one name of the NAMES reply -/
def joinF (c : Bytes) (acc : S) (mp : Bytes × ChanPrivs) : S := addMember c mp.1 {} (highest mp.2) acc

theorem foldl_joinF (c : Bytes) (l : List (Bytes × ChanPrivs)) (acc : S) :
    (l.foldl (joinF c) acc).chans = acc.chans ∧ (l.foldl (joinF c) acc).me = acc.me ∧
    (∀ w, AL.has (l.foldl (joinF c) acc).nicks w = (AL.has acc.nicks w || AL.has l w)) ∧
    (∀ c' w, AL.has (l.foldl (joinF c) acc).mem (c', w) = (AL.has acc.mem (c', w) || (decide (c' = c) && AL.has l w))) ∧
    ((AL.keys acc.mem).Nodup → (AL.keys (l.foldl (joinF c) acc).mem).Nodup) := by
  induction l generalizing acc with
  | nil => simp [AL.has_nil]
  | cons a l ih =>
    obtain ⟨a1, a2⟩ := a
    rw [List.foldl_cons]
    obtain ⟨i1, i2, i3, i4, i5⟩ := ih (joinF c acc (a1, a2))
    refine ⟨i1.trans (addMember_chans ..), i2.trans (addMember_me ..), fun w => ?_, fun c' w => ?_, fun h => ?_⟩
    · rw [i3, joinF, addMember_has_nicks, AL.has_cons, Bool.or_assoc]
    · have e : decide ((c, a1) = (c', w)) = (decide (c' = c) && decide (a1 = w)) := by
        rw [← Bool.decide_and]; exact decide_eq_decide.2 (by rw [Prod.mk.injEq, eq_comm])
      rw [i4, joinF, addMember_mem, AL.has_insert, AL.has_cons, e]
      cases decide (c' = c) <;> cases decide (a1 = w) <;> cases AL.has acc.mem (c', w) <;> rfl
    · apply i5; rw [joinF, addMember_mem]; exact AL.nodup_insert h _ _

theorem VInv.join_me {me : Bytes} {on on' : Bytes → Bytes → Bool} {v : S} (h : VInv me on v)
    {c : Bytes} (ms : List (Bytes × ChanPrivs)) (sc : SChan) (hme : AL.has ms me = true)
    (hc : on me c = false)
    (h' : ∀ w c', on' w c' = if c' = c then AL.has ms w else on w c') :
    VInv me on' (ms.foldl (joinF c) { v with chans := AL.insert v.chans c sc }) := by
  obtain ⟨f1, f2, f3, f4, f5⟩ := foldl_joinF c ms { v with chans := AL.insert v.chans c sc }
  refine ⟨f2.trans h.me_eq, fun c' => ?_, fun c' w => ?_, fun w => ?_, f5 h.mem_nodup⟩
  · rw [f1]; show AL.has (AL.insert v.chans c sc) c' = _
    rw [AL.has_insert, h.chans, h']; grind
  · rw [f4]; show (AL.has v.mem (c', w) || _) = _
    rw [h.mem, h', h']; grind
  · rw [f3]; show (AL.has v.nicks w || _) = true ↔ _
    have hn := h.nicks w
    simp only [h']
    grind

end Proofs.C13
