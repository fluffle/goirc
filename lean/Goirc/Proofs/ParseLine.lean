import Goirc.Proofs.ParseRender
/-!
# How the client parses a line `:source VERB p1 .. pk [:trailing]`

`parse_gen`: such a line, with an ordinary upper-case verb and parameters that survive `strings.Fields`, parses to the
expected nick, ident, host, command and arguments - `parse_render_of` for a message without tags, read field by field.
There is no bound on the number of parameters: the parser has none. `parse_verb_trailing` is the same for `VERB :trailing`
without a source, whatever bytes the trailing has. `ParsesTo`, `midOk` and `SaneName` are the vocabulary their users share.
-/
namespace Go
open Spec.Irc

/-- `raw` parses to a line with these fields (the other fields are not read by the handlers) -/
def ParsesTo (ext : UnicodeExt) (raw nick ident host cmd : Bytes) (args : List Bytes) : Prop :=
  ∃ L : Line, parseLine ext raw = some L ∧ L.nick = nick ∧ L.ident = ident ∧ L.host = host ∧ L.cmd = cmd ∧ L.args = args

/-- a parameter that survives `strings.Fields`: not empty, no leading colon, no white space -/
def midOk (p : Bytes) : Bool := !p.isEmpty && p.head? != some 58 && p.all (fun b => 32 < b && b < 127)

theorem middleOk_of_midOk (s : Bytes) (h : midOk s = true) : middleOk s = true := by
  simp only [midOk, Bool.and_eq_true, List.all_eq_true, decide_eq_true_eq] at h
  simp only [middleOk, Bool.and_eq_true]
  exact ⟨h.1, noSpaceRune_of_print s h.2⟩

theorem midOk_cons (x : UInt8) (s : Bytes) (hx : 32 < x ∧ x < 127) (hx2 : x ≠ 58) (hs : ∀ b ∈ s, 32 < b ∧ b < 127) :
    midOk (x :: s) = true := by
  simp only [midOk, Bool.and_eq_true, List.all_eq_true, decide_eq_true_eq, List.mem_cons]
  refine ⟨⟨by simp, by simpa using hx2⟩, ?_⟩
  intro b hb
  rcases hb with rfl | hb
  · exact hx
  · exact hs b hb

theorem SaneName.midOk {n : Bytes} (h : SaneName n) : midOk n = true := by
  simp only [Go.midOk, Bool.and_eq_true, Bool.not_eq_true', List.isEmpty_eq_false_iff, bne_iff_ne, ne_eq,
    List.all_eq_true, decide_eq_true_eq]
  exact ⟨⟨h.1, fun e => h.not_mem 58 (by simp) (List.mem_of_mem_head? e)⟩, h.print⟩

theorem SaneName.user_wf {n : Bytes} (h : SaneName n) (u hh : Bytes) (hu : noSpaceRune u = true)
    (hh' : noSpaceRune hh = true) (hu2 : (64 : UInt8) ∉ u) : (Source.user n u hh).wf = true := by
  have h1 := h.not_mem 33 (by decide)
  have h2 := h.not_mem 64 (by decide)
  simp [Source.wf, noSpaceRune_of_print n h.print, hu, hh', hu2, h1, h2]

/-- the server of the scripted networks -/
theorem srvSrc_wf : (Source.server (lit "irc.test")).wf = true := by decide +kernel

def spMids : List Bytes → Bytes
  | [] => []
  | a :: rest => 32 :: (a ++ spMids rest)

theorem renderMiddles_spMids (l : List Bytes) : renderMiddles (l.map (fun a => (0, a))) = spMids l := by
  induction l with
  | nil => rfl
  | cons a l ih => simp [renderMiddles, spMids, ih]

def srcNick : Source → Bytes | .user n _ _ => n | .server _ => []
def srcIdent : Source → Bytes | .user _ i _ => i | .server _ => []
def srcHost : Source → Bytes | .user _ _ h => h | .server n => n

/-- a verb as the scripted networks spell it: well formed, upper case already, neither PRIVMSG nor NOTICE (so no CTCP
rewriting). A closed fact for each verb in use. -/
abbrev PlainVerb (verb : Bytes) : Prop := verbOk verb = true ∧ isMsgVerb verb = false ∧ toUpperAscii verb = verb

theorem parse_gen (ext : UnicodeExt) (src : Source) (hs : src.wf = true) (verb : Bytes) (hverb : PlainVerb verb)
    (mids : List Bytes) (hm : ∀ a ∈ mids, midOk a = true) (tr : Option Bytes) :
    ParsesTo ext (58 :: (src.render ++ 32 :: (verb ++ (spMids mids ++ trPart tr))))
      (srcNick src) (srcIdent src) (srcHost src) verb (mids ++ tr.toList) := by
  obtain ⟨hv, hnm, hup⟩ := hverb
  let m : Msg := { source := some src, verb := verb, middles := mids.map (fun a => (0, a)),
                   trailing := tr.map (fun t => (0, t)) }
  have hmid : m.middles.all (fun p => middleOk p.2) = true := by
    simp only [m, List.all_eq_true, List.mem_map]
    intro p hp
    obtain ⟨a, ha, rfl⟩ := hp
    exact middleOk_of_midOk a (hm a ha)
  have hr : render m = 58 :: (src.render ++ 32 :: (verb ++ (spMids mids ++ trPart tr))) := by
    simp only [render, m, renderMiddles_spMids]
    cases tr <;> simp [trPart]
  have hexp : expected ext m = baseLine m := by
    rw [expected, if_neg (by simp [m, hnm])]; rfl
  have := parse_render_of ext m (fun ts e => nomatch e) (fun s e => by cases e; exact hs) hv hmid
    (by simp [ctcpWf, m, hnm])
  rw [hr, hexp] at this
  refine ⟨_, this, ?_, ?_, ?_, hup, ?_⟩
  · cases src <;> rfl
  · cases src <;> rfl
  · cases src <;> rfl
  · have e : mids.map ((fun x : Nat × Bytes => x.snd) ∘ fun a => (0, a)) = mids := by simp [Function.comp_def]
    simp only [baseLine, params, m, List.map_map, e]
    cases tr <;> rfl

theorem parse_verb_trailing (ext : UnicodeExt) (verb tok : Bytes) (hverb : PlainVerb verb) :
    parseLine ext (verb ++ 32 :: 58 :: tok) = some { raw := verb ++ 32 :: 58 :: tok, cmd := verb, args := [tok] } := by
  obtain ⟨hv, hnm, hup⟩ := hverb
  have := parse_render_of ext { verb := verb, trailing := some (0, tok) } (fun _ e => nomatch e) (fun _ e => nomatch e)
    hv rfl (by simp [ctcpWf, hnm])
  simpa [expected, render, renderMiddles, hnm, params, hup] using this

theorem toLower_ascii (ext : UnicodeExt) (s : Bytes) (h : isAscii s = true) : toLower ext s = toLowerAscii s := by
  simp only [toLower, h, if_true]

end Go
