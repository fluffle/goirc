import Goirc.Proofs.Tracker
/-! The two registries.  `NewNick`/`NewChannel` write an object where nothing live is (`R.of_live_eq`) and register it,
`delNick`/`delChannel` end by unregistering an object that has no links left: one registry entry is set to an
`Option Id`, and the simulation relation is kept by that (`R_regNick`, `R_regChan`). -/
namespace Spec.Tracker
open Go.Tracker AL

/-- Which objects are live after `put reg a v`, for a registry `reg` whose entries point at objects that carry their key as
name (`nm`). -/
theorem live_put {reg : List (Bytes × Id)} {nm : Id → Bytes} (hreg : ∀ b i, AL.lookup reg b = some i → nm i = b)
    {a : Bytes} {v : Option Id} (hnew : ∀ i, v = some i → nm i = a) (j : Id) :
    AL.lookup (AL.put reg a v) (nm j) = some j ↔
      (v = some j ∨ (AL.lookup reg (nm j) = some j ∧ AL.lookup reg a ≠ some j)) := by
  rw [lookup_put]
  constructor
  · intro h
    split at h
    · exact .inl h
    · rename_i hne; exact .inr ⟨h, fun ha => hne (hreg a j ha).symm⟩
  · rintro (h | ⟨h, hne⟩)
    · rw [if_pos (hnew j h).symm]; exact h
    · rw [if_neg fun ha : a = nm j => hne (ha ▸ h)]; exact h

/-- No object moves, so every field of `R` that does not read `st.nicks` holds as it did, literally. -/
theorem R_regNick {st : St} {S : S} (r : R st S) (a : Bytes) (v : Option Id)
    (hold : ∀ i, AL.lookup st.nicks a = some i → i ≠ st.me ∧ ∀ c, AL.lookup (getN st i).chans c = none)
    (hnew : ∀ i, v = some i → (getN st i).nick = a ∧ (getN st i).chans = [] ∧ i < st.fresh) :
    R { st with nicks := AL.put st.nicks a v }
      { S with nicks := AL.put S.nicks a (v.map fun i => absN (getN st i)) } := by
  obtain ⟨w, ab⟩ := r
  have lN : ∀ j, LiveN { st with nicks := AL.put st.nicks a v } j ↔
      (v = some j ∨ (LiveN st j ∧ AL.lookup st.nicks a ≠ some j)) :=
    live_put (nm := fun j => (getN st j).nick) w.nick_name fun i h => (hnew i h).1
  have lk : ∀ j, LiveN { st with nicks := AL.put st.nicks a v } j → ∀ c cell,
      AL.lookup (getN st j).chans c = some cell → LiveN st j := by
    intro j hj c cell hx
    rcases (lN j).1 hj with h | h
    · rw [(hnew j h).2.1] at hx; cases hx
    · exact h.1
  constructor
  · constructor
    · exact forall_put w.nick_name fun i h => (hnew i h).1
    · exact w.chan_name
    · exact (lN _).2 (.inr ⟨w.me_live, fun h => (hold _ h).1 rfl⟩)
    · intro i hi
      rcases (lN i).1 hi with h | h
      · show (AL.keys (getN st i).chans).Nodup
        rw [(hnew i h).2.1]; exact List.nodup_nil
      · exact w.nk_nodup i h.1
    · exact w.ch_nodup
    · exact fun i hi c cell hx => w.nk_ch i (lk i hi c cell hx) c cell hx
    · intro c hc i cell hx
      obtain ⟨hi, hy⟩ := w.ch_nk c hc i cell hx
      refine ⟨(lN i).2 (.inr ⟨hi, fun h => ?_⟩), hy⟩
      rw [(hold i h).2 c] at hy; cases hy
    · exact w.ch_lookup
    · exact fun i hi j hj c d cell hx hy => w.cell_inj i (lk i hi c cell hx) j (lk j hj d cell hy) c d cell hx hy
    · exact forall_put w.fresh_nick fun i h => (hnew i h).2.2
    · exact w.fresh_chan
    · exact fun i hi c cell hx => w.fresh_cell i (lk i hi c cell hx) c cell hx
  · constructor
    · intro b
      show AL.lookup (AL.put S.nicks a _) b = (AL.lookup (AL.put st.nicks a v) b).map _
      rw [lookup_put, lookup_put, ab.nicks]
      split <;> rfl
    · exact ab.chans
    · intro cn b
      show AL.lookup S.mem (cn, b) = (AL.lookup st.chans cn).bind fun c => (AL.lookup (AL.put st.nicks a v) b).bind fun i =>
        (AL.lookup (getN st i).chans c).map (getP st)
      rw [ab.mem, lookup_put]
      split
      · -- neither the nick dropped nor the one added has a link
        rename_i hab; subst hab
        refine Option.bind_congr fun c _ => ?_
        rw [Option.bind_eq_none_iff.2 fun i hi => by rw [(hold i hi).2 c]; rfl,
          Option.bind_eq_none_iff.2 fun i hv => by rw [(hnew i hv).2.1]; rfl]
      · rfl
    · exact ab.mem_nodup
    · show AL.lookup (AL.put st.nicks a v) S.me = some st.me
      rw [lookup_put, if_neg]
      · exact ab.me
      · intro h; have := ab.me; rw [← h] at this; exact (hold _ this).1 rfl
    · exact ab.chan_keys

/-- One more demand than in `R_regNick`: what is added must not be live already.  Memberships, `cell_inj` and `fresh_cell` are
read from the nicks' link maps, so a new nick with an empty map adds nothing by itself, whereas for a channel one has to know
that no live nick points at it, which `WF.nk_ch` gives for an object that is not live. -/
theorem R_regChan {st : St} {S : S} (r : R st S) (a : Bytes) (v : Option Id)
    (hold : ∀ c, AL.lookup st.chans a = some c → ∀ i, AL.lookup (getC st c).nicks i = none)
    (hnew : ∀ c, v = some c → ¬ LiveC st c ∧ (getC st c).name = a ∧ (getC st c).nicks = [] ∧
      (getC st c).lookup = [] ∧ c < st.fresh) :
    R { st with chans := AL.put st.chans a v }
      { S with chans := AL.put S.chans a (v.map fun c => absC (getC st c)) } := by
  obtain ⟨w, ab⟩ := r
  have lC : ∀ j, LiveC { st with chans := AL.put st.chans a v } j ↔
      (v = some j ∨ (LiveC st j ∧ AL.lookup st.chans a ≠ some j)) :=
    live_put (nm := fun j => (getC st j).name) w.chan_name fun c h => (hnew c h).2.1
  constructor
  · constructor
    · exact w.nick_name
    · exact forall_put w.chan_name fun c h => (hnew c h).2.1
    · exact w.me_live
    · exact w.nk_nodup
    · intro c hc
      rcases (lC c).1 hc with h | h
      · show (AL.keys (getC st c).nicks).Nodup
        rw [(hnew c h).2.2.1]; exact List.nodup_nil
      · exact w.ch_nodup c h.1
    · intro i hi c cell hx
      obtain ⟨hc, hy⟩ := w.nk_ch i hi c cell hx
      refine ⟨(lC c).2 (.inr ⟨hc, fun h => ?_⟩), hy⟩
      rw [hold c h i] at hy; cases hy
    · intro c hc i cell (hx : AL.lookup (getC st c).nicks i = some cell)
      rcases (lC c).1 hc with h | h
      · rw [(hnew c h).2.2.1] at hx; cases hx
      · exact w.ch_nk c h.1 i cell hx
    · intro c hc b i
      rcases (lC c).1 hc with h | h
      · show AL.lookup (getC st c).lookup b = some i ↔ (AL.has (getC st c).nicks i = true ∧ (getN st i).nick = b)
        rw [(hnew c h).2.2.1, (hnew c h).2.2.2.1]
        exact ⟨fun h' => (nomatch h'), fun h' => (nomatch h'.1)⟩
      · exact w.ch_lookup c h.1 b i
    · exact w.cell_inj
    · exact w.fresh_nick
    · exact forall_put w.fresh_chan fun c h => (hnew c h).2.2.2.2
    · exact w.fresh_cell
  · constructor
    · exact ab.nicks
    · intro b
      show AL.lookup (AL.put S.chans a _) b = (AL.lookup (AL.put st.chans a v) b).map _
      rw [lookup_put, lookup_put, ab.chans]
      split <;> rfl
    · intro cn b
      show AL.lookup S.mem (cn, b) = (AL.lookup (AL.put st.chans a v) cn).bind fun c => (AL.lookup st.nicks b).bind fun i =>
        (AL.lookup (getN st i).chans c).map (getP st)
      rw [ab.mem, lookup_put]
      split
      · -- no live nick is linked to the channel dropped, nor to the one added
        rename_i hab; subst hab
        have none_of : ∀ c, (∀ i, LiveN st i → AL.lookup (getN st i).chans c = none) →
            ((AL.lookup st.nicks b).bind fun i => (AL.lookup (getN st i).chans c).map (getP st)) = none :=
          fun c h => Option.bind_eq_none_iff.2 fun i hi => by rw [h i (w.liveN hi)]; rfl
        rw [Option.bind_eq_none_iff.2 fun c hc => none_of c fun i hi => (w.on_eq (w.liveC hc) hi).trans (hold c hc i),
          Option.bind_eq_none_iff.2 fun c hv => none_of c fun i hi =>
            Option.eq_none_iff_forall_ne_some.2 fun cell hx => (hnew c hv).1 (w.nk_ch i hi c cell hx).1]
      · rfl
    · exact ab.mem_nodup
    · exact ab.me
    · exact keys_put_congr ab.chan_keys a (by cases v <;> rfl)

theorem R_removeNick {st : St} {S : S} (r : R st S) {a : Bytes} {n : Id} (hn : AL.lookup st.nicks a = some n)
    (hme : n ≠ st.me) (hemp : ∀ c, AL.lookup (getN st n).chans c = none) :
    R { st with nicks := AL.erase st.nicks a } { S with nicks := AL.erase S.nicks a } :=
  R_regNick r a none (fun i hi => by rw [hn] at hi; cases hi; exact ⟨hme, hemp⟩) (fun _ hi => nomatch hi)

theorem R_newNick {st : St} {S : S} (r : R st S) (n : Bytes) (hn : AL.lookup st.nicks n = none) :
    R { setN st st.fresh { nick := n } with nicks := AL.insert st.nicks n st.fresh, fresh := st.fresh + 1 }
      { S with nicks := AL.insert S.nicks n {} } := by
  -- the object is written where nothing live is, then registered
  have r1 : R { setN st st.fresh { nick := n } with fresh := st.fresh + 1 } S :=
    r.of_live_eq rfl rfl rfl (Nat.le_succ _)
      (fun j hj => (getN_setN _ _ _ _).trans (if_neg (Nat.ne_of_gt (r.1.liveN_lt hj)))) (fun _ _ => rfl) (fun _ _ => rfl)
  have new : getN { setN st st.fresh { nick := n } with fresh := st.fresh + 1 } st.fresh = { nick := n } :=
    (getN_setN _ _ _ _).trans (if_pos rfl)
  have := R_regNick r1 n (some st.fresh) (fun i (hi : AL.lookup st.nicks n = some i) => by rw [hn] at hi; cases hi)
    (fun i hi => by cases hi; rw [new]; exact ⟨rfl, rfl, Nat.lt_succ_self _⟩)
  rw [Option.map_some, new] at this
  exact this

theorem R_removeChan {st : St} {S : S} (r : R st S) {a : Bytes} {c : Id} (hc : AL.lookup st.chans a = some c)
    (hemp : ∀ i, AL.lookup (getC st c).nicks i = none) :
    R { st with chans := AL.erase st.chans a } { S with chans := AL.erase S.chans a } :=
  R_regChan r a none (fun i hi => by rw [hc] at hi; cases hi; exact hemp) (fun _ hi => nomatch hi)

theorem R_newChannel {st : St} {S : S} (r : R st S) (n : Bytes) (hn : AL.lookup st.chans n = none) :
    R { setC st st.fresh { name := n } with chans := AL.insert st.chans n st.fresh, fresh := st.fresh + 1 }
      { S with chans := AL.insert S.chans n {} } := by
  have r1 : R { setC st st.fresh { name := n } with fresh := st.fresh + 1 } S :=
    r.of_live_eq rfl rfl rfl (Nat.le_succ _) (fun _ _ => rfl)
      (fun j hj => (getC_setC _ _ _ _).trans (if_neg (Nat.ne_of_gt (r.1.liveC_lt hj)))) (fun _ _ => rfl)
  have new : getC { setC st st.fresh { name := n } with fresh := st.fresh + 1 } st.fresh = { name := n } :=
    (getC_setC _ _ _ _).trans (if_pos rfl)
  have := R_regChan r1 n (some st.fresh) (fun i (hi : AL.lookup st.chans n = some i) => by rw [hn] at hi; cases hi)
    (fun i hi => by
      cases hi; unfold LiveC; rw [new]
      exact ⟨fun h => (nomatch hn.symm.trans h), rfl, rfl, rfl, Nat.lt_succ_self _⟩)
  rw [Option.map_some, new] at this
  exact this

theorem sim_newNick {st : St} {S : S} (r : R st S) (n : Bytes) : Sim st S (.newNick n) := by
  unfold Sim
  simp only [Go.Tracker.step, Spec.Tracker.step, r.2.has_nicks]
  cases he : n.isEmpty
  · cases hh : AL.has st.nicks n
    · simp only [Bool.false_eq_true, if_false, Bool.or_self]
      have r' := R_newNick r n ((has_false_iff _ _).1 hh)
      refine ⟨r', nickSnap_sim r' ?_⟩
      exact (lookup_insert _ _ _ _).trans (if_pos rfl)
    · simp only [Bool.false_eq_true, if_false, if_true, Bool.or_true]
      exact ⟨r, trivial⟩
  · simp only [if_true, Bool.true_or]
    exact ⟨r, trivial⟩

theorem sim_newChannel {st : St} {S : S} (r : R st S) (n : Bytes) : Sim st S (.newChannel n) := by
  unfold Sim
  simp only [Go.Tracker.step, Spec.Tracker.step, r.2.has_chans]
  cases he : n.isEmpty
  · cases hh : AL.has st.chans n
    · simp only [Bool.false_eq_true, if_false, Bool.or_self]
      have r' := R_newChannel r n ((has_false_iff _ _).1 hh)
      refine ⟨r', chanSnap_sim r' ?_⟩
      exact (lookup_insert _ _ _ _).trans (if_pos rfl)
    · simp only [Bool.false_eq_true, if_false, if_true, Bool.or_true]
      exact ⟨r, trivial⟩
  · simp only [if_true, Bool.true_or]
    exact ⟨r, trivial⟩

end Spec.Tracker
