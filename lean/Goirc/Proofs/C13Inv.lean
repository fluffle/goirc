import Goirc.Proofs.C13InvAuxGround
/-!
# C13: the invariant of the model network is established by `start` and kept by `serverStep`

An event that changes who is where is a ground-truth update described by its effect on `onChan` (`C13InvAuxGround`) and the
matching view update (`C13InvAuxView`), put together by `NetInv.of`; the others (topic, modes, the 324 and WHO replies, the
client's user mode) keep the keys (`Keq`).
-/
namespace Proofs.C13
open Go Go.Client Go.Tracker Spec.Tracker Spec.Net

theorem NetInv_start (me ident host real : Bytes) (others : List (Bytes × NUser))
    (hme : nickOk me = true ∧ nameOk ident = true ∧ nameOk host = true ∧ textOk real = true)
    (hothers : ∀ u ∈ others, nickOk u.1 = true ∧ nameOk u.2.ident = true ∧ nameOk u.2.host = true ∧ textOk u.2.real = true) :
    NetInv (start me ident host real others) := by
  refine ⟨rfl, ?_, ?_, List.nodup_nil, (fun c ch hl => by cases hl), fun c => rfl, fun c u => rfl, fun u => ?_, List.nodup_nil⟩
  · show AL.has ((me, _) :: others) me = true
    rw [AL.has_cons]; simp
  · intro u x hl
    change AL.lookup ((me, (⟨ident, host, real⟩ : NUser)) :: others) u = some x at hl
    rcases List.mem_cons.1 (AL.mem_of_lookup hl) with h | h
    · cases h; exact hme
    · exact hothers _ h
  · show AL.has [(me, _)] u = (u == me || false)
    rw [AL.has_cons, AL.has_nil]
    by_cases h : me = u
    · subst h; simp
    · have : ¬ u = me := fun h1 => h h1.symm
      simp [h, this]

theorem VInv.on_eq {me : Bytes} {on on' : Bytes → Bytes → Bool} {v : S} (h : VInv me on v)
    (he : ∀ w c, on' w c = on w c) : VInv me on' v :=
  h.congr (fun _ => he _ _) (fun _ _ _ => he _ _)

theorem NetInv_join (n : Net) (u c : Bytes) (hi : NetInv n) (hc : conforms n (.join u c) = true) :
    NetInv (serverStep n (.join u c)).1 := by
  have hg := hi.ground
  have hv := hi.vinv
  simp only [conforms, Bool.and_eq_true, Bool.not_eq_true'] at hc
  obtain ⟨⟨hu, hok⟩, hn⟩ := hc
  obtain ⟨g1, g2, g3⟩ := join_ground hg hu hok hn (if AL.has n.chans c then {} else {op := true})
  simp only [serverStep]
  split
  · rename_i hme
    have hme : u = n.me := beq_iff_eq.1 hme
    subst hme
    refine NetInv.of g1 (VInv.join_me hv _ _ ?_ hn (fun w c' => onChan_setChan _ _ _ _ _))
    rw [g2]; simp
  · rename_i hme
    have hme : u ≠ n.me := fun h => hme (beq_iff_eq.2 h)
    split
    · rename_i hvis
      exact NetInv.of g1 (VInv.join_other hv hvis hme _ _ g3)
    · rename_i hvis
      refine NetInv.of g1 (hv.congr (fun c' => ?_) (fun w c' hc' => ?_))
      · show onChan (setChan n c _) n.me c' = _
        rw [g3]; simp [Ne.symm hme]
      · show onChan (setChan n c _) w c' = _
        rw [g3]
        have : c' ≠ c := by intro h; subst h; exact hvis hc'
        simp [this]

theorem NetInv_leave_core (n : Net) (u c line : Bytes) (hi : NetInv n) (hu : onChan n u c = true) :
    NetInv (if onChan n n.me c then ({ leave n u c with view := viewLeave (leave n u c).view u c }, [line])
      else (leave n u c, [])).1 := by
  have hg := hi.ground
  have hv := hi.vinv
  split
  · rename_i hvis
    refine NetInv.of (hg.leave u c) ?_
    rw [leave_me, leave_view]
    exact VInv.leave hv hvis hu (onChan_leave n u c)
  · refine NetInv.of (hg.leave u c) ?_
    show VInv (leave n u c).me (onChan (leave n u c)) (leave n u c).view
    rw [leave_me, leave_view]
    refine hv.congr (fun c' => ?_) (fun w c' hc' => ?_)
    · rw [onChan_leave]; grind
    · rw [onChan_leave]; grind

theorem NetInv_part (n : Net) (u c : Bytes) (hi : NetInv n) (hc : conforms n (.part u c) = true) :
    NetInv (serverStep n (.part u c)).1 :=
  NetInv_leave_core n u c _ hi hc

theorem NetInv_kick (n : Net) (k c v : Bytes) (hi : NetInv n) (hc : conforms n (.kick k c v) = true) :
    NetInv (serverStep n (.kick k c v)).1 := by
  simp only [conforms, Bool.and_eq_true] at hc
  exact NetInv_leave_core n v c _ hi hc.2

theorem NetInv_quit (n : Net) (u : Bytes) (hi : NetInv n) (hc : conforms n (.quit u) = true) :
    NetInv (serverStep n (.quit u)).1 := by
  have hg := hi.ground
  have hv := hi.vinv
  simp only [conforms, Bool.and_eq_true, bne_iff_ne, ne_eq] at hc
  have hu := hc.1
  obtain ⟨q1, q2, q3, q4⟩ := quit_ground hg hu
  simp only [serverStep]
  -- of the network after the fold only what `quit_ground` says is needed
  generalize (AL.keys n.chans).foldl (quitF u) n = n1 at q1 q2 q3 q4 ⊢
  obtain ⟨me1, users1, chans1, view1⟩ := n1
  simp only at q2 q3
  subst q2 q3
  split
  · exact NetInv.of q1 (VInv.quit hv hu q4)
  · rename_i hvis
    rw [Bool.not_eq_true, ← Bool.not_eq_true, sharesWithMe_iff n hg.chans_nodup] at hvis
    refine NetInv.of q1 (hv.congr (fun c' => ?_) (fun w c' hc' => ?_))
    · show onChan ⟨n.me, users1, chans1, n.view⟩ n.me c' = _
      rw [q4]; simp [Ne.symm hu]
    · show onChan ⟨n.me, users1, chans1, n.view⟩ w c' = _
      rw [q4]
      by_cases h : w = u
      · subst h
        cases h1 : onChan n w c' with
        | false => rfl
        | true => exact absurd ⟨c', h1, hc'⟩ hvis
      · simp [h]

theorem NetInv_nick (n : Net) (u nw : Bytes) (hi : NetInv n) (hc : conforms n (.nick u nw) = true)
    (he : nickHeadOk nw = true) : NetInv (serverStep n (.nick u nw)).1 := by
  have hg := hi.ground
  have hv := hi.vinv
  simp only [conforms, Bool.and_eq_true, Bool.not_eq_true'] at hc
  obtain ⟨⟨hu, hnw⟩, hok⟩ := hc
  obtain ⟨g1, g2⟩ := nick_ground hg hu hnw (by simp only [nickOk, hok, he]; rfl)
  have hnm : nw ≠ n.me := by intro h1; subst h1; rw [hg.me_user] at hnw; cases hnw
  have hvn := hv.nicks u
  rw [← sharesWithMe_iff n hg.chans_nodup] at hvn
  simp only [serverStep]
  split
  · rename_i hvis
    simp only [Bool.or_eq_true, beq_iff_eq] at hvis
    have hr := hvn.2 hvis
    split
    · rename_i r hl
      exact NetInv.of g1 (VInv.nick hv (hg.not_onChan hnw) hnm hl g2)
    · rename_i hl
      rw [AL.has_eq, hl] at hr; cases hr
  · rename_i hvis
    simp only [Bool.or_eq_true, beq_iff_eq, not_or] at hvis
    rw [sharesWithMe_iff n hg.chans_nodup] at hvis
    have hme : (nickNet n u nw).me = n.me := by
      show (if u == n.me then nw else n.me) = n.me
      have : (u == n.me) = false := by simp [hvis.1]
      rw [this]; rfl
    refine NetInv.of g1 ?_
    show VInv (nickNet n u nw).me (onChan (nickNet n u nw)) n.view
    rw [hme]
    have hns : ∀ c, onChan n n.me c = true → onChan n u c = false := by
      intro c hc'
      cases h1 : onChan n u c with
      | false => rfl
      | true => exact absurd ⟨c, h1, hc'⟩ hvis.2
    refine hv.congr (fun c' => ?_) (fun w c' hc' => ?_)
    · rw [g2]; have := hvis.1; grind
    · rw [g2]; have := hns c' hc'; have := hg.not_onChan hnw c'; grind

theorem NetInv_topic (n : Net) (u c t : Bytes) (hi : NetInv n) (hc : conforms n (.topic u c t) = true) :
    NetInv (serverStep n (.topic u c t)).1 := by
  have hg := hi.ground
  have hv := hi.vinv
  simp only [conforms, Bool.and_eq_true] at hc
  simp only [serverStep]
  split
  · rename_i ch hl
    have hci := hg.chan_inv c ch hl
    have g1 : GInv (setChan n c { ch with topic := t }) :=
      hg.setChan ⟨hci.name, hc.2, hci.key, hci.limit, hci.members_nodup, hci.members_users⟩
    have g2 : ∀ w c', onChan (setChan n c { ch with topic := t }) w c' = onChan n w c' :=
      onChan_setChan_same hl (fun _ => rfl)
    split
    · rename_i hvis
      refine NetInv.of g1 ((hv.on_eq g2).keq (Keq.set_chan _ _ _ ?_))
      rw [hv.chans]; exact hvis
    · exact NetInv.of g1 (hv.on_eq g2)
  · exact hi

theorem NetInv_mode (n : Net) (u c : Bytes) (chs : List ModeChange) (hi : NetInv n)
    (hc : conforms n (.mode u c chs) = true) : NetInv (serverStep n (.mode u c chs)).1 := by
  have hg := hi.ground
  have hv := hi.vinv
  simp only [conforms, Bool.and_eq_true] at hc
  simp only [serverStep]
  split
  · rename_i ch hl
    obtain ⟨s1, s2⟩ := foldl_applyChange_spec chs (hg.chan_inv c ch hl) hc.1.2
    have g1 : GInv (setChan n c (chs.foldl applyChange ch)) := hg.setChan s1
    have g2 : ∀ w c', onChan (setChan n c (chs.foldl applyChange ch)) w c' = onChan n w c' :=
      onChan_setChan_same hl s2
    split
    · exact NetInv.of g1 ((hv.on_eq g2).keq (Keq_foldl _ (Keq_viewApplyChange c) chs _))
    · exact NetInv.of g1 (hv.on_eq g2)
  · exact hi

theorem NetInv_answerMode (n : Net) (c : Bytes) (hi : NetInv n) (hc : conforms n (.answerMode c) = true) :
    NetInv (serverStep n (.answerMode c)).1 := by
  have hg := hi.ground
  have hv := hi.vinv
  simp only [conforms] at hc
  simp only [serverStep]
  split
  · refine NetInv.of hg (hv.keq (Keq.set_chan _ _ _ ?_))
    rw [hv.chans]; exact hc
  · exact hi

theorem NetInv_answerWho (n : Net) (c : Bytes) (hi : NetInv n) :
    NetInv (serverStep n (.answerWho c)).1 := by
  have hg := hi.ground
  have hv := hi.vinv
  simp only [serverStep]
  split
  · exact NetInv.of hg (hv.keq (Keq_foldl _ (Keq_whoStep n.users) _ _))
  · exact hi

theorem NetInv_umode (n : Net) (add : Bool) (l : UInt8) (hi : NetInv n) :
    NetInv (serverStep n (.umode add l)).1 := by
  have hg := hi.ground
  have hv := hi.vinv
  simp only [serverStep]
  refine NetInv.of hg (hv.keq (Keq.set_nick _ _ _ ?_))
  rw [hv.me_eq, hv.nicks]; exact Or.inl rfl

theorem NetInv_step (n : Net) (e : Event) (hi : NetInv n) (hc : conforms n e = true) (he : evOk e) :
    NetInv (serverStep n e).1 := by
  cases e with
  | join u c => exact NetInv_join n u c hi hc
  | part u c => exact NetInv_part n u c hi hc
  | kick k c v => exact NetInv_kick n k c v hi hc
  | quit u => exact NetInv_quit n u hi hc
  | nick u nw => exact NetInv_nick n u nw hi hc he
  | topic u c t => exact NetInv_topic n u c t hi hc
  | mode u c chs => exact NetInv_mode n u c chs hi hc
  | answerMode c => exact NetInv_answerMode n c hi hc
  | answerWho c => exact NetInv_answerWho n c hi
  | umode add l => exact NetInv_umode n add l hi

end Proofs.C13
