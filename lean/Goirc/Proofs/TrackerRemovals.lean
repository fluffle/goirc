import Goirc.Proofs.TrackerSpec
import Goirc.Proofs.TrackerLinks
import Goirc.Proofs.TrackerRegistry
/-! The removals.  `delNick` takes a nick off all its channels one link at a time (`unlinkAll`) and unregisters it;
`delChannel` takes the members off a channel one at a time, each forgotten if that was its last channel (`dissoc1`,
`dissocAll`), and unregisters the channel; `Dissociate` is one such step, or `delChannel` for the client itself; `Wipe`
is `delChannel` of every channel.  Each fold runs against the fold of the same single steps in the spec, which
`TrackerSpec` shows to be `dropNick` / `dropChan`. -/
namespace Spec.Tracker
open Go.Tracker AL

def unlinkAll (st : St) (n : Id) (l : List Id) : St := l.foldl (fun s c => unlink s c n) st

@[simp] theorem unlinkAll_nil (st : St) (n : Id) : unlinkAll st n [] = st := rfl
@[simp] theorem unlinkAll_cons (st : St) (n c : Id) (l : List Id) :
    unlinkAll st n (c :: l) = unlinkAll (unlink st c n) n l := List.foldl_cons ..

theorem keeps_unlinkAll (st : St) (n : Id) (l : List Id) : Keeps st (unlinkAll st n l) :=
  Keeps.foldl _ (fun s c => keeps_unlink s c n) l st

theorem unlinkAll_set_nicks (l : List Id) : ∀ (st : St) (n : Id) (x : List (Bytes × Id)),
    unlinkAll { st with nicks := x } n l = { unlinkAll st n l with nicks := x } := by
  induction l with
  | nil => intros; rfl
  | cons c l ih => intro st n x; rw [unlinkAll_cons, unlinkAll_cons, unlink_set_nicks, ih]

theorem unlinkAll_set_chans (l : List Id) : ∀ (st : St) (n : Id) (x : List (Bytes × Id)),
    unlinkAll { st with chans := x } n l = { unlinkAll st n l with chans := x } := by
  induction l with
  | nil => intros; rfl
  | cons c l ih => intro st n x; rw [unlinkAll_cons, unlinkAll_cons, unlink_set_chans, ih]

section
variable (n : Id)
@[simp] theorem unlinkAll_nicks (l : List Id) : ∀ st : St, (unlinkAll st n l).nicks = st.nicks :=
  fun st => List.foldlRecOn (motive := fun s => s.nicks = st.nicks) l _ rfl fun s hs c _ => (unlink_nicks s c n).trans hs
@[simp] theorem unlinkAll_chans (l : List Id) : ∀ st : St, (unlinkAll st n l).chans = st.chans :=
  fun st => List.foldlRecOn (motive := fun s => s.chans = st.chans) l _ rfl fun s hs c _ => (unlink_chans s c n).trans hs
@[simp] theorem unlinkAll_me (l : List Id) : ∀ st : St, (unlinkAll st n l).me = st.me :=
  fun st => (keeps_unlinkAll st n l).me
@[simp] theorem unlinkAll_name (l : List Id) : ∀ (st : St) (j : Id), (getC (unlinkAll st n l) j).name = (getC st j).name :=
  fun st j => (keeps_unlinkAll st n l).name j
theorem unlinkAll_absC (l : List Id) : ∀ (st : St) (j : Id), absC (getC (unlinkAll st n l) j) = absC (getC st j) :=
  fun st j => (keeps_unlinkAll st n l).absC j
theorem unlinkAll_nchans_self (l : List Id) : ∀ (st : St),
    (getN (unlinkAll st n l) n).chans = l.foldl (fun m c => AL.erase m c) (getN st n).chans := by
  induction l with
  | nil => intros; rfl
  | cons c l ih => intro st; rw [unlinkAll_cons, ih, unlink_nchans_self, List.foldl_cons]
end

theorem delNickObj_eq (st : St) (n : Id) (h : n ≠ st.me) :
    delNickObj st n = { unlinkAll st n (AL.keys (getN st n).chans) with
                          nicks := AL.erase st.nicks (getN st n).nick } := by
  unfold delNickObj
  rw [if_neg h]
  have : (fun (s : St) c => chanDelNick (nickDelChannel s n c) c n) = fun s c => unlink s c n := by
    funext s c; exact unlink_comm s c n
  simp only [this]
  exact unlinkAll_set_nicks _ _ _ _

theorem R_unlinkAll {a : Bytes} {n : Id} (l : List Id) : ∀ (st : St) (S : S), R st S →
    AL.lookup st.nicks a = some n → (∀ c ∈ l, LiveC st c) →
    R (unlinkAll st n l)
      { S with mem := (l.map fun c => (getC st c).name).foldl (fun m cn => AL.erase m (cn, a)) S.mem } := by
  induction l with
  | nil => intro st S r _ _; exact r
  | cons c l ih =>
    intro st S r hn hl
    have hc : LiveC st c := hl c (by simp)
    have r1 := R_unlink r hc hn
    have := ih (unlink st c n) _ r1 (by simpa using hn) (by
      intro d hd; have := hl d (by simp [hd]); simpa [LiveC] using this)
    simpa using this

theorem R_delNickObj {st : St} {S : S} (r : R st S) {a : Bytes} {n : Id} (hn : AL.lookup st.nicks a = some n)
    (hme : n ≠ st.me) : R (delNickObj st n) (dropNick S a) := by
  have w := r.1
  have ab := r.2
  have ln := w.liveN hn
  have hnn := w.nick_name a n hn
  have hme' : a ≠ S.me := by
    intro h; have := ab.me; rw [← h, hn] at this; cases this; exact hme rfl
  have hl : ∀ c ∈ AL.keys (getN st n).chans, LiveC st c := by
    intro c hc
    obtain ⟨cell, hcell⟩ := (has_true_iff _ _).1 ((has_iff_mem_keys _ _).2 hc)
    exact (w.nk_ch n ln c cell hcell).1
  have r1 := R_unlinkAll (a := a) (n := n) _ st S r hn hl
  have hemp : ∀ c, AL.lookup (getN (unlinkAll st n (AL.keys (getN st n).chans)) n).chans c = none := by
    intro c
    rw [unlinkAll_nchans_self, foldl_erase_keys_nil _ _ (fun k hk => hk)]
    rfl
  have r2 := R_removeNick r1 (a := a) (n := n) (by simpa using hn) (by simpa using hme) hemp
  rw [delNickObj_eq st n hme, hnn]
  rw [dropNick_eq_fold S a ((AL.keys (getN st n).chans).map fun c => (getC st c).name) hme']
  · simpa using r2
  · intro cn p hm
    have := lookup_of_mem ab.mem_nodup hm
    rw [ab.mem_iff] at this
    obtain ⟨c, i, cell, h1, h2, h3, _⟩ := this
    rw [hn] at h2; cases h2
    exact List.mem_map.2 ⟨c, (has_iff_mem_keys _ _).1 ((has_true_iff _ _).2 ⟨cell, h3⟩), w.chan_name _ _ h1⟩

theorem keeps_delNickObj (s : St) (n : Id) : Keeps s (delNickObj s n) := by
  unfold delNickObj; split
  · exact Keeps.refl s
  · exact (Keeps.set_nicks s _).trans
      (Keeps.foldl _ (fun s c => (keeps_nickDelChannel s n c).trans (keeps_chanDelNick _ c n)) _ _)

theorem delNickObj_chans_nil {st : St} {n : Id} (hme : n ≠ st.me) : (getN (delNickObj st n) n).chans = [] := by
  rw [delNickObj_eq st n hme]
  simp only [getN_mk, hgetN_proj]
  rw [unlinkAll_nchans_self, foldl_erase_keys_nil _ _ (fun k hk => hk)]

theorem sim_delNick {st : St} {S : S} (r : R st S) (n : Bytes) : Sim st S (.delNick n) := by
  unfold Sim
  rcases r.2.nick_cases n with ⟨h, hS⟩ | ⟨i, h, hS⟩ <;> simp only [Go.Tracker.step, Spec.Tracker.step, h, hS]
  · exact ⟨r, trivial⟩
  · by_cases hme : i = st.me
    · have := (R.me_iff r h).1 hme
      simp only [hme, this, if_true, beq_self_eq_true]
      exact ⟨r, trivial⟩
    · have hme2 : ¬ n = S.me := fun h2 => hme ((R.me_iff r h).2 h2)
      simp only [hme, if_false, beq_iff_eq, hme2]
      refine ⟨R_delNickObj r h hme, ?_⟩
      have k := keeps_delNickObj st i
      have h2 := k.absN i
      simp only [absN, SNick.mk.injEq] at h2
      refine ⟨(k.nick i).trans (r.1.nick_name n i h), h2.1, h2.2.1, h2.2.2.1, h2.2.2.2, ?_⟩
      simp only [Go.Tracker.nickSnap, delNickObj_chans_nil hme, List.map_nil]; exact List.Perm.refl _

def dissoc1 (st : St) (c n : Id) : St :=
  if (getN (unlink st c n) n).chans.isEmpty && n != (unlink st c n).me then delNickObj (unlink st c n) n
  else unlink st c n

theorem delNickObj_of_empty {st : St} {n : Id} (h : (getN st n).chans.isEmpty = true) (hme : n ≠ st.me) :
    delNickObj st n = { st with nicks := AL.erase st.nicks (getN st n).nick } := by
  rw [delNickObj_eq st n hme]
  have : (getN st n).chans = [] := by simpa using h
  rw [this]; rfl

theorem dissoc1_eq (st : St) (c n : Id) :
    dissoc1 st c n =
      if (getN (unlink st c n) n).chans.isEmpty && n != st.me then
        { unlink st c n with nicks := AL.erase st.nicks (getN st n).nick }
      else unlink st c n := by
  unfold dissoc1
  simp only [unlink_me]
  split
  · rename_i h
    simp only [Bool.and_eq_true, bne_iff_ne, ne_eq] at h
    rw [delNickObj_of_empty h.1 (by simpa using h.2)]
    simp
  · rfl

theorem R_dissoc1 {st : St} {S : S} (r : R st S) {cn a : Bytes} {c n : Id} (hc : AL.lookup st.chans cn = some c)
    (hn : AL.lookup st.nicks a = some n) : R (dissoc1 st c n) (sdissoc1 S cn a) := by
  have r1 := R_unlink r hc hn
  have hn1 : AL.lookup (unlink st c n).nicks a = some n := by simpa using hn
  have e1 := memberships_isEmpty r1 hn1
  unfold dissoc1 sdissoc1
  simp only [e1]
  have e2 : (n != (unlink st c n).me) = (a != S.me) := by
    rw [Bool.eq_iff_iff]
    simp only [bne_iff_ne, ne_eq, unlink_me]
    exact not_congr (R.me_iff r hn)
  simp only [e2]
  split
  · rename_i h
    simp only [Bool.and_eq_true, bne_iff_ne, ne_eq] at h
    refine R_delNickObj r1 hn1 ?_
    intro hme
    apply h.2
    exact (R.me_iff r hn).1 (by simpa using hme)
  · exact r1

theorem keeps_dissoc1 (st : St) (c n : Id) : Keeps st (dissoc1 st c n) := by
  unfold dissoc1; split
  · exact (keeps_unlink st c n).trans (keeps_delNickObj _ n)
  · exact keeps_unlink st c n

section
variable (st : St) (c n : Id)
@[simp] theorem dissoc1_chans : (dissoc1 st c n).chans = st.chans := by
  rw [dissoc1_eq]; split <;> simp
@[simp] theorem dissoc1_me : (dissoc1 st c n).me = st.me := (keeps_dissoc1 st c n).me
@[simp] theorem dissoc1_nick (j : Id) : (getN (dissoc1 st c n) j).nick = (getN st j).nick := (keeps_dissoc1 st c n).nick j
theorem dissoc1_cnicks_self : (getC (dissoc1 st c n) c).nicks = AL.erase (getC st c).nicks n := by
  rw [dissoc1_eq]; split <;> simp [unlink_cnicks_self]
theorem dissoc1_liveN {j : Id} (hn : LiveN st n) (hj : LiveN st j) (hne : j ≠ n) : LiveN (dissoc1 st c n) j := by
  unfold LiveN
  rw [dissoc1_nick, dissoc1_eq]
  split
  · simp only [lookup_erase]
    rw [if_neg]
    · exact hj
    · intro h; exact hne (hj.eq_of_nick hn h.symm)
  · simp only [unlink_nicks]; exact hj
theorem dissoc1_set_chans (x : List (Bytes × Id)) :
    dissoc1 { st with chans := x } c n = { dissoc1 st c n with chans := x } := by
  have hc : ((getN (unlink { st with chans := x } c n) n).chans.isEmpty && n != ({ st with chans := x } : St).me)
      = ((getN (unlink st c n) n).chans.isEmpty && n != st.me) := by rw [unlink_set_chans]; rfl
  rw [dissoc1_eq, dissoc1_eq]
  by_cases h : ((getN (unlink st c n) n).chans.isEmpty && n != st.me) = true
  · rw [if_pos h, if_pos (by rw [hc]; exact h), unlink_set_chans]; rfl
  · rw [if_neg h, if_neg (by rw [hc]; exact h), unlink_set_chans]
end

def dissocAll (st : St) (c : Id) (l : List Id) : St := l.foldl (fun s n => dissoc1 s c n) st

@[simp] theorem dissocAll_nil (st : St) (c : Id) : dissocAll st c [] = st := rfl
@[simp] theorem dissocAll_cons (st : St) (c n : Id) (l : List Id) :
    dissocAll st c (n :: l) = dissocAll (dissoc1 st c n) c l := List.foldl_cons ..

theorem keeps_dissocAll (st : St) (c : Id) (l : List Id) : Keeps st (dissocAll st c l) :=
  Keeps.foldl _ (fun s n => keeps_dissoc1 s c n) l st

theorem dissocAll_set_chans (l : List Id) : ∀ (st : St) (c : Id) (x : List (Bytes × Id)),
    dissocAll { st with chans := x } c l = { dissocAll st c l with chans := x } := by
  induction l with
  | nil => intros; rfl
  | cons n l ih => intro st c x; rw [dissocAll_cons, dissocAll_cons, dissoc1_set_chans, ih]

section
variable (c : Id)
@[simp] theorem dissocAll_chans (l : List Id) : ∀ st : St, (dissocAll st c l).chans = st.chans :=
  fun st => List.foldlRecOn (motive := fun s => s.chans = st.chans) l _ rfl fun s hs n _ => (dissoc1_chans s c n).trans hs
theorem dissocAll_cnicks_self (l : List Id) : ∀ (st : St),
    (getC (dissocAll st c l) c).nicks = l.foldl (fun m n => AL.erase m n) (getC st c).nicks := by
  induction l with
  | nil => intros; rfl
  | cons n l ih => intro st; rw [dissocAll_cons, ih, dissoc1_cnicks_self, List.foldl_cons]
end

theorem delChanObj_eq (st : St) (c : Id) :
    delChanObj st c = { dissocAll st c (AL.keys (getC st c).nicks) with
                          chans := AL.erase st.chans (getC st c).name } := by
  unfold delChanObj
  exact dissocAll_set_chans _ _ _ _

theorem R_dissocAll {cn : Bytes} {c : Id} (l : List Id) : ∀ (st : St) (S : S), R st S →
    AL.lookup st.chans cn = some c → l.Nodup → (∀ n ∈ l, LiveN st n) →
    R (dissocAll st c l) ((l.map fun n => (getN st n).nick).foldl (fun T a => sdissoc1 T cn a) S) := by
  induction l with
  | nil => intro st S r _ _ _; exact r
  | cons n l ih =>
    intro st S r hc nd hl
    have hn : LiveN st n := hl n (by simp)
    have r1 := R_dissoc1 r hc hn
    rw [List.nodup_cons] at nd
    have := ih (dissoc1 st c n) _ r1 (by simpa using hc) nd.2 (by
      intro j hj
      exact dissoc1_liveN st c n hn (hl j (by simp [hj])) (by intro h; subst h; exact nd.1 hj))
    simpa using this

theorem R_delChanObj {st : St} {S : S} (r : R st S) {cn : Bytes} {c : Id} (hc : AL.lookup st.chans cn = some c) :
    R (delChanObj st c) (dropChan S cn) := by
  have w := r.1
  have ab := r.2
  have lc := w.liveC hc
  have hcn := w.chan_name cn c hc
  have hl : ∀ n ∈ AL.keys (getC st c).nicks, LiveN st n := by
    intro n hn
    obtain ⟨cell, hcell⟩ := (has_true_iff _ _).1 ((has_iff_mem_keys _ _).2 hn)
    exact (w.ch_nk c lc n cell hcell).1
  have r1 := R_dissocAll (cn := cn) (c := c) _ st S r hc (w.ch_nodup c lc) hl
  have hemp : ∀ i, AL.lookup (getC (dissocAll st c (AL.keys (getC st c).nicks)) c).nicks i = none := by
    intro i
    rw [dissocAll_cnicks_self, foldl_erase_keys_nil _ _ (fun k hk => hk)]
    rfl
  have r2 := R_removeChan r1 (a := cn) (c := c) (by simpa using hc) hemp
  rw [delChanObj_eq st c, hcn]
  rw [dropChan_eq_fold S cn ((AL.keys (getC st c).nicks).map fun n => (getN st n).nick)]
  · simpa using r2
  · intro b
    rw [has_eq, ab.mem, hc, Option.bind_some]
    constructor
    · intro hb
      obtain ⟨i, hi, rfl⟩ := List.mem_map.1 hb
      obtain ⟨cell, hcell⟩ := (has_true_iff _ _).1 ((has_iff_mem_keys _ _).2 hi)
      obtain ⟨li, hx⟩ := w.ch_nk c lc i cell hcell
      rw [li, Option.bind_some, hx]; rfl
    · intro hb
      cases hi : AL.lookup st.nicks b with
      | none => rw [hi] at hb; cases hb
      | some i =>
        rw [hi, Option.bind_some, w.on_eq lc (w.liveN hi)] at hb
        exact List.mem_map.2 ⟨i, (has_iff_mem_keys _ _).1 (Option.isSome_map.symm.trans hb), w.nick_name _ _ hi⟩

theorem keeps_delChanObj (st : St) (c : Id) : Keeps st (delChanObj st c) := by
  rw [delChanObj_eq]; exact (keeps_dissocAll st c _).trans (Keeps.set_chans _ _)

theorem delChanObj_nicks_nil (st : St) (c : Id) : (getC (delChanObj st c) c).nicks = [] := by
  rw [delChanObj_eq st c]
  simp only [getC_mk, hgetC_proj]
  rw [dissocAll_cnicks_self, foldl_erase_keys_nil _ _ (fun k hk => hk)]

theorem sim_delChannel {st : St} {S : S} (r : R st S) (c : Bytes) : Sim st S (.delChannel c) := by
  unfold Sim
  rcases r.2.chan_cases c with ⟨h, hS⟩ | ⟨i, h, hS⟩ <;> simp only [Go.Tracker.step, Spec.Tracker.step, h, hS]
  · exact ⟨r, trivial⟩
  · refine ⟨R_delChanObj r h, ?_⟩
    have k := keeps_delChanObj st i
    have h2 := k.absC i
    simp only [absC, SChan.mk.injEq] at h2
    refine ⟨(k.name i).trans (r.1.chan_name c i h), h2.1, h2.2, ?_⟩
    simp only [Go.Tracker.chanSnap, delChanObj_nicks_nil, List.map_nil]; exact List.Perm.refl _

theorem step_dissociate_on {st : St} {c n : Bytes} {ci ni cell : Id} (hc : AL.lookup st.chans c = some ci)
    (hn : AL.lookup st.nicks n = some ni) (hx : AL.lookup (getN st ni).chans ci = some cell) :
    Go.Tracker.step st (.dissociate c n) = (if ni = st.me then delChanObj st ci else dissoc1 st ci ni, .unit) := by
  simp only [Go.Tracker.step, hc, hn, has_eq, hx, Option.isSome_some, Bool.not_true, Bool.false_eq_true, if_false]
  split
  · rfl
  · rename_i hme
    have : (ni != (unlink st ci ni).me) = true := by rw [unlink_me]; exact bne_iff_ne.2 hme
    simp only [dissoc1, this, Bool.and_true]
    exact (apply_ite (fun x => (x, Ret.unit)) _ _ _).symm

theorem sim_dissociate {st : St} {S : S} (r : R st S) (c n : Bytes) : Sim st S (.dissociate c n) := by
  unfold Sim
  rw [step_dissociate, r.2.has_chans, r.2.has_nicks, has_eq, has_eq, has_eq, r.2.mem]
  cases hc : AL.lookup st.chans c with
  | none => simp only [Go.Tracker.step, hc, Option.isSome_none, Bool.false_and, Bool.false_eq_true, if_false]; exact ⟨r, trivial⟩
  | some ci =>
    cases hn : AL.lookup st.nicks n with
    | none =>
      simp only [Go.Tracker.step, hc, hn, Option.isSome_none, Bool.and_false, Bool.false_and, Bool.false_eq_true, if_false]
      exact ⟨r, trivial⟩
    | some ni =>
      cases hx : AL.lookup (getN st ni).chans ci with
      | none =>
        simp only [Go.Tracker.step, hc, hn, has_eq, hx, Option.bind_some, Option.map_none, Option.isSome_none, Bool.not_false,
          Bool.and_false, Bool.false_eq_true, if_false, if_true]
        exact ⟨r, trivial⟩
      | some cell =>
        rw [step_dissociate_on hc hn hx]
        simp only [Option.bind_some, hx, Option.map_some, Option.isSome_some, Bool.and_self, if_true, beq_iff_eq,
          ← R.me_iff r hn]
        split
        · exact ⟨R_delChanObj r hc, trivial⟩
        · exact ⟨R_dissoc1 r hc hn, trivial⟩

/-- one iteration of `Wipe` -/
def wipeStep (st : St) (cn : Bytes) : St :=
  match AL.lookup st.chans cn with
  | some ci => delChanObj st ci
  | none => st

theorem R_wipeStep {st : St} {S : S} (r : R st S) (cn : Bytes) : R (wipeStep st cn) (dropChan S cn) := by
  unfold wipeStep
  cases hc : AL.lookup st.chans cn with
  | some ci => exact R_delChanObj r hc
  | none =>
    simp only
    rw [dropChan_absent]
    · exact r
    · rw [r.2.chans, hc]; rfl
    · intro b; rw [r.2.mem, hc]; rfl

theorem sim_wipe {st : St} {S : S} (r : R st S) : Sim st S .wipe := by
  unfold Sim
  simp only [Go.Tracker.step, Spec.Tracker.step]
  refine ⟨?_, trivial⟩
  rw [r.2.chan_keys]
  exact List.foldl_rel r fun cn _ _ _ r' => R_wipeStep r' cn

end Spec.Tracker
