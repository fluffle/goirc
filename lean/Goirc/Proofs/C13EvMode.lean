import Goirc.Proofs.C13Ops
import Goirc.Proofs.C13Parse
import Goirc.Proofs.C13InvAuxGround
import Goirc.Proofs.C13Decimal
import Goirc.Proofs.C13Modes
/-!
# C13: a channel MODE change brings the relational state to the new view

The rendered change list (`changeLetters`, `changeArgs`) is read back by `parseModes` as the fold of the view's rules
(`parseModes_changes`).
-/
namespace Proofs.C13
open Go Go.Client Go.Tracker Spec.Tracker Spec.Net

def chgAdd : ModeChange → Bool
  | .flag a _ => a | .key a _ => a | .limit a _ => a | .priv a _ _ => a | .ban a _ => a

def chgLetter : ModeChange → UInt8
  | .flag _ l => l | .key _ _ => 107 | .limit _ _ => 108 | .priv _ l _ => l | .ban _ _ => 98

theorem changeLetters_cons (chg : ModeChange) (rest : List ModeChange) (cur : Option Bool) :
    changeLetters (chg :: rest) cur =
      (if cur == some (chgAdd chg) then [] else [if chgAdd chg then 43 else 45]) ++ [chgLetter chg] ++
        changeLetters rest (some (chgAdd chg)) := by
  cases chg <;> rfl

theorem parseModes_sign (A : TS) (c : Bytes) (op add : Bool) (cur : Option Bool) (hcur : cur = none ∨ cur = some op)
    (l : UInt8) (tl : Bytes) (args : List Bytes) :
    parseModes A c op ((if cur == some add then [] else [if add then 43 else 45]) ++ [l] ++ tl) args =
      parseModes A c add (l :: tl) args := by
  by_cases h : cur = some add
  · obtain rfl : add = op := by simpa [h] using hcur
    rw [if_pos (beq_iff_eq.2 h)]; rfl
  · rw [if_neg (fun e => h (beq_iff_eq.1 e))]
    cases add
    · exact parseModes_minus ..
    · exact parseModes_plus ..

theorem flag_cases (l : UInt8) (h : isFlag l = true) :
    l = 105 ∨ l = 109 ∨ l = 110 ∨ l = 112 ∨ l = 114 ∨ l = 115 ∨ l = 116 ∨ l = 122 ∨ l = 90 ∨ l = 79 := by
  simpa [isFlag] using h

theorem priv_cases (l : UInt8) (h : isPriv l = true) : l = 113 ∨ l = 97 ∨ l = 111 ∨ l = 104 ∨ l = 118 := by
  simpa [isPriv] using h

theorem applyChanFlag_flag (l : UInt8) (h : isFlag l = true) (m : ChanMode) (a : Bool) :
    applyChanFlag m a l = some (applyFlag m a l) := by
  rcases flag_cases l h with rfl | rfl | rfl | rfl | rfl | rfl | rfl | rfl | rfl | rfl <;> rfl

theorem parseModes_change (n : Net) (A : TS) (c : Bytes) (chg : ModeChange) (tl : Bytes) (rest : List ModeChange)
    (hok : changeOk n c chg = true) (hch : AL.has A.chans c = true)
    (hmem : ∀ u, onChan n u c = true → AL.has A.mem (c, u) = true) :
    parseModes A c (chgAdd chg) (chgLetter chg :: tl) (changeArgs (chg :: rest)) =
      parseModes (viewApplyChange A c chg) c (chgAdd chg) tl (changeArgs rest) := by
  obtain ⟨r, hr⟩ := (AL.has_true_iff _ _).mp hch
  have hr' : (AL.lookup A.chans c).getD {} = r := by rw [hr]; rfl
  cases chg with
  | flag a l =>
    simp only [viewApplyChange, hr]
    exact parseModes_flag A c a tl _ hr' (applyChanFlag_flag l hok r.modes a)
  | key a k =>
    simp only [viewApplyChange, hr]
    cases a
    · exact parseModes_key_del A c tl _ hr'
    · exact parseModes_key_add A c tl hr' k _
  | limit a k =>
    simp only [viewApplyChange, hr]
    cases a
    · exact parseModes_limit_del A c tl _ hr'
    · simp only [changeOk, Bool.and_eq_true, decide_eq_true_eq] at hok
      rw [if_pos rfl, ← atoi_natBytes k hok.1]
      exact parseModes_limit_add A c tl hr' _ _
  | priv a l u =>
    simp only [changeOk, Bool.and_eq_true] at hok
    obtain ⟨p, hp⟩ := (AL.has_true_iff _ _).mp (hmem u hok.2)
    simp only [viewApplyChange, hp]
    exact parseModes_priv A c a tl (m := l) (by simpa [isPriv] using hok.1) u _ hp
  | ban a m => exact parseModes_ban A c a tl _

theorem parseModes_changes (n : Net) (c : Bytes) (chs : List ModeChange) :
    ∀ (A : TS) (op : Bool) (cur : Option Bool), (cur = none ∨ cur = some op) →
      chs.all (changeOk n c) = true → AL.has A.chans c = true →
      (∀ u, onChan n u c = true → AL.has A.mem (c, u) = true) →
      parseModes A c op (changeLetters chs cur) (changeArgs chs) = chs.foldl (fun v chg => viewApplyChange v c chg) A := by
  induction chs with
  | nil => intro A op cur _ _ _ _; simp [changeLetters, parseModes]
  | cons chg rest ih =>
    intro A op cur hcur hok hch hmem
    simp only [List.all_cons, Bool.and_eq_true] at hok
    rw [changeLetters_cons, parseModes_sign A c op (chgAdd chg) cur hcur,
      parseModes_change n A c chg _ rest hok.1 hch hmem, List.foldl_cons]
    apply ih _ _ _ (Or.inr rfl) hok.2
    · rw [(Keq_viewApplyChange c A chg).has_chans]; exact hch
    · intro u hu; rw [(Keq_viewApplyChange c A chg).has_mem]; exact hmem u hu

theorem changeLetters_printable (n : Net) (c : Bytes) (chs : List ModeChange) :
    ∀ cur, chs.all (changeOk n c) = true → ∀ b ∈ changeLetters chs cur, 32 < b ∧ b < 127 := by
  induction chs with
  | nil => intro cur _ b hb; simp [changeLetters] at hb
  | cons chg rest ih =>
    intro cur hok b hb
    simp only [List.all_cons, Bool.and_eq_true] at hok
    rw [changeLetters_cons] at hb
    simp only [List.append_assoc, List.mem_append, List.mem_cons, List.not_mem_nil, or_false] at hb
    rcases hb with hb | hb | hb
    · split at hb
      · simp at hb
      · simp only [List.mem_cons, List.not_mem_nil, or_false] at hb
        subst hb; split <;> decide
    · subst hb
      cases chg with
      | flag a l =>
        rcases flag_cases l hok.1 with rfl | rfl | rfl | rfl | rfl | rfl | rfl | rfl | rfl | rfl <;> (simp only [chgLetter]; decide)
      | key a k => simp only [chgLetter]; decide
      | limit a k => simp only [chgLetter]; decide
      | priv a l u =>
        simp only [changeOk, Bool.and_eq_true] at hok
        rcases priv_cases l hok.1.1 with rfl | rfl | rfl | rfl | rfl <;> (simp only [chgLetter]; decide)
      | ban a m => simp only [chgLetter]; decide
    · exact ih _ hok.2 b hb

theorem changeLetters_midOk (n : Net) (c : Bytes) (chs : List ModeChange) (hne : chs ≠ [])
    (hok : chs.all (changeOk n c) = true) : midOk (changeLetters chs none) = true := by
  have hp := changeLetters_printable n c chs none hok
  cases chs with
  | nil => exact absurd rfl hne
  | cons chg rest =>
    rw [changeLetters_cons] at hp ⊢
    simp only [midOk, Bool.and_eq_true, List.all_eq_true, decide_eq_true_eq]
    refine ⟨⟨?_, ?_⟩, hp⟩
    · simp
    · cases chgAdd chg <;> simp

theorem changeArgs_midOk (n : Net) (hi : NetInv n) (c : Bytes) (chs : List ModeChange)
    (hok : chs.all (changeOk n c) = true) : ∀ a ∈ changeArgs chs, midOk a = true := by
  induction chs with
  | nil => intro a ha; cases ha
  | cons chg rest ih =>
    simp only [List.all_cons, Bool.and_eq_true] at hok
    have ih := ih hok.2
    -- a change is rendered with no argument, or with one good middle parameter
    have one : ∀ x, midOk x = true → ∀ a ∈ x :: changeArgs rest, midOk a = true := fun x hx a ha => by
      rcases List.mem_cons.1 ha with rfl | ha
      · exact hx
      · exact ih a ha
    rcases chg with _ | ⟨_ | _, k⟩ | ⟨_ | _, k⟩ | ⟨_, l, u⟩ | ⟨_, m⟩
    · exact ih
    · exact ih
    · exact one k (midOk_of_nameOk _ hok.1)
    · exact ih
    · exact one _ (natBytes_midOk k)
    · have h1 := hok.1
      simp only [changeOk, Bool.and_eq_true] at h1
      obtain ⟨-, -, x, hx⟩ := hi.member h1.2
      exact one u (midOk_of_nameOk _ (hi.user hx).1)
    · exact one m (midOk_of_nameOk _ hok.1)

theorem ev_mode (ext : UnicodeExt) (nn : Bytes → Bytes) (n : Net) (u c : Bytes) (chs : List ModeChange) (hi : NetInv n)
    (hc : conforms n (.mode u c chs) = true) :
    Eqv (tFeed ext nn n.view (serverStep n (.mode u c chs)).2) (serverStep n (.mode u c chs)).1.view := by
  simp only [conforms, Bool.and_eq_true, Bool.not_eq_true', List.isEmpty_eq_false_iff] at hc
  obtain ⟨⟨⟨hon, hne⟩, hok⟩, _⟩ := hc
  simp only [serverStep]
  cases hl : AL.lookup n.chans c with
  | none => simp [onChan, hl] at hon
  | some ch =>
    simp only []
    by_cases hme : onChan n n.me c = true
    · simp only [hme, ↓reduceIte, setChan]
      obtain ⟨-, hcn, x, hx⟩ := hi.member hon
      obtain ⟨h1, h2, h3, hm⟩ := hi.user hx
      obtain ⟨L, -, -, -, hcmd, ha, hf⟩ :=
        (parse_MODE ext u x.ident x.host h1 h2 h3 c (changeLetters chs none) (changeArgs chs) hcn
          (changeLetters_midOk n c chs hne hok) (changeArgs_midOk n hi c chs hok)).feed nn n.view []
      have hvc : AL.has n.view.chans c = true := by rw [hi.view_chans]; exact hme
      rw [hm, hf, tDispatch_MODE ext nn _ hcmd]
      simp only [tFeed, t_MODE, arg, ha, List.getElem?_cons_zero, List.getElem?_cons_succ, hvc, if_true, List.drop_succ_cons,
        List.drop_zero, sx_channelModes]
      rw [parseModes_changes n c chs n.view false none (Or.inl rfl) hok hvc
          (fun v hv => by rw [hi.view_mem, hme, hv]; rfl)]
      exact Eqv.refl _
    · simp only [hme, Bool.false_eq_true, ↓reduceIte, setChan, tFeed]
      exact Eqv.refl _

end Proofs.C13
