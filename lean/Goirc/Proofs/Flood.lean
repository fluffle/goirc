import Goirc.Model.Flood
import Goirc.Spec.Flood
/-!
# C10: the invariant of a run of `rateLimit`, and the bounds read off it

`rate` in closed form (`rate_penalty`, `rate_hold`) gives one line's passage through `rateLimit` as three equations `omega` can
use (`next_badness`, `next_lastsent`, `delay_eq`); nothing after them unfolds `rate`. `Inv s pw` is kept by every valid line
(`inv_next`, `inv_final`). From it the bound on every window (`window_bound_from`), with that the Spec's executable window
predicate (`windowOk_of_inv`), and no hold while the remaining penalty and the charges fit into 10 s (`noHold_of_budget`).
`second` stays an atom for `omega` throughout: only its sign matters.
-/
namespace Go.Extra
open Go.Flood

theorem chargeOf_eq (c : Nat) : Spec.Flood.chargeOf c = charge c := rfl

end Go.Extra

namespace Go.Flood

theorem second_pos : 0 < second := by decide

theorem charge_pos (n : Nat) : 2 * second ≤ charge n := by
  unfold charge
  have : (0:Int) ≤ (n:Int) * second / 120 := Int.ediv_nonneg (Int.mul_nonneg (by omega) (by decide)) (by omega)
  omega

theorem rate_penalty (chars : Nat) (b e : Int) : (rate chars b e).1 = max 0 (b + charge chars - e) := by
  simp only [rate]; omega

-- plain `rfl` is slow here: the unifier evaluates `10 * second`
theorem rate_hold (chars : Nat) (b e : Int) :
    (rate chars b e).2 = if (rate chars b e).1 > 10 * second then charge chars else 0 := by
  unfold rate; rfl

theorem next_badness (s : St) (e : Ev) :
    (next s e).badness = max 0 (s.badness + charge e.chars - (e.t - s.lastsent)) := rate_penalty ..

theorem next_lastsent (s : St) (e : Ev) : (next s e).lastsent = e.l := rfl

theorem delay_eq (s : St) (e : Ev) :
    delay s e = if (next s e).badness > 10 * second then charge e.chars else 0 := rate_hold ..

/-- `pw` is the previous write time; the last clause says that a held line really was held for its charge -/
def Inv (s : St) (pw : Int) : Prop := 0 ≤ s.badness ∧ s.lastsent ≤ pw ∧ s.badness + s.lastsent ≤ 10 * second + pw

theorem inv_fresh (t0 : Int) : Inv (fresh t0) t0 := by
  have := second_pos
  simp only [Inv, fresh]; omega

theorem inv_next (s : St) (pw : Int) (e : Ev) (h : Inv s pw)
    (h1 : pw ≤ e.t) (h3 : e.l + delay s e ≤ e.w) : Inv (next s e) e.w := by
  have := second_pos
  have := charge_pos e.chars
  have := next_badness s e
  have := next_lastsent s e
  rw [delay_eq] at h3
  unfold Inv at *
  omega

theorem valid_append (s : St) (pw : Int) (es fs : List Ev) :
    Valid s pw (es ++ fs) ↔ Valid s pw es ∧ Valid (final s es) (lastW pw es) fs := by
  induction es generalizing s pw with
  | nil => simp [Valid, final, lastW]
  | cons e es ih => simp [Valid, final, lastW, ih, and_assoc]

theorem inv_final (s : St) (pw : Int) (es : List Ev) (h : Inv s pw) (hv : Valid s pw es) :
    Inv (final s es) (lastW pw es) := by
  induction es generalizing s pw with
  | nil => exact h
  | cons e es ih =>
    obtain ⟨h1, h2, h3, h4⟩ := hv
    exact ih _ _ (inv_next s pw e h h1 h3) h4

theorem totalCharge_cons (e : Ev) (es : List Ev) : totalCharge (e :: es) = charge e.chars + totalCharge es := rfl

theorem totalCharge_nonneg (es : List Ev) : 0 ≤ totalCharge es := by
  induction es with
  | nil => decide
  | cons x xs ih =>
    have := charge_pos x.chars
    have := second_pos
    rw [totalCharge_cons]; omega

theorem totalCharge_snoc (es : List Ev) (e : Ev) : totalCharge (es ++ [e]) = totalCharge es + charge e.chars := by
  simp [totalCharge]

theorem lastW_snoc (pw : Int) (es : List Ev) (e : Ev) : lastW pw (es ++ [e]) = e.w := by
  induction es generalizing pw with
  | nil => rfl
  | cons x es ih => simp [lastW, ih]

theorem headCharge_append_cons (pre post : List Ev) (e : Ev) :
    headCharge (pre ++ e :: post) = headCharge (pre ++ [e]) := by
  cases pre <;> rfl

/-- accumulation: charges pile up in the penalty except for the time that elapsed -/
theorem accumulate (s : St) (pw : Int) (es : List Ev) (hv : Valid s pw es) :
    s.badness + totalCharge es ≤ (final s es).badness + ((final s es).lastsent - s.lastsent) := by
  induction es generalizing s pw with
  | nil => simp [totalCharge, final]
  | cons e es ih =>
    obtain ⟨h1, h2, h3, h4⟩ := hv
    have := charge_pos e.chars
    have := second_pos
    have := next_badness s e
    have := next_lastsent s e
    rw [delay_eq] at h3
    have := ih (next s e) e.w h4
    rw [totalCharge_cons, final]
    omega

theorem window_bound_from (s : St) (pw : Int) (hI : Inv s pw) (e1 : Ev) (more : List Ev)
    (hv : Valid s pw (e1 :: more)) :
    totalCharge (e1 :: more) ≤ (lastW e1.w more - e1.w) + 10 * second + charge e1.chars +
      headCharge more := by
  have := second_pos
  cases more with
  | nil =>
    have : totalCharge [] = 0 := rfl
    simp only [totalCharge_cons, lastW, headCharge]; omega
  | cons e2 rest =>
    -- from the third line on the charges pile up in the penalty (`accumulate`), which the invariant bounds at the end
    obtain ⟨h1, h2, h3, h4, h5, h6, h7⟩ := hv
    have I2 := inv_next _ _ e2 (inv_next s pw e1 hI h1 h3) h4 h6
    have hacc := accumulate _ e2.w rest h7
    have If := inv_final _ _ rest I2 h7
    have := next_lastsent (next s e1) e2
    have := I2.1
    have := If.2.2
    simp only [totalCharge_cons, lastW, headCharge]
    omega

/-- `Spec.Flood.windowFrom.go` checks the window bound of every run `e1 :: pre ++ [e]` as `e` moves along `post`. The allowance
in each of these bounds includes the charge of the run's second line, the head of `pre ++ post`: that list stays the same
while `e` passes from `post` to `pre`, so its head charge is carried as `x` with `hx`, and the induction over `post` can
generalise `pre`. -/
theorem go_ok (s : St) (pw : Int) (hI : Inv s pw) (e1 : Ev) (pre post : List Ev) (x : Int)
    (hx : x = headCharge (pre ++ post))
    (hv : Valid s pw (e1 :: (pre ++ post))) :
    Spec.Flood.windowFrom.go e1.w (Spec.Flood.chargeOf e1.chars + x) (totalCharge (e1 :: pre))
      (post.map fun e => (e.chars, e.w)) = true := by
  induction post generalizing pre with
  | nil => simp [Spec.Flood.windowFrom.go]
  | cons e post ih =>
    have hv' : Valid s pw ((e1 :: (pre ++ [e])) ++ post) := by
      simpa [List.append_assoc] using hv
    have hpre := ((valid_append s pw _ _).1 hv').1
    have hb := window_bound_from s pw hI e1 (pre ++ [e]) hpre
    have htc : totalCharge (e1 :: (pre ++ [e])) = totalCharge (e1 :: pre) + charge e.chars := by
      rw [← List.cons_append, totalCharge_snoc]
    rw [lastW_snoc, htc, ← headCharge_append_cons pre post e, ← hx] at hb
    rw [List.map_cons, Spec.Flood.windowFrom.go.eq_2, Bool.and_eq_true]
    refine ⟨?_, ?_⟩
    · simp only [Go.Extra.chargeOf_eq]
      simp only [second] at hb
      apply decide_eq_true
      omega
    · have := ih (pre ++ [e]) (by simpa [List.append_assoc] using hx) (by simpa [List.append_assoc] using hv)
      rw [htc] at this
      exact this

theorem windowFrom_ok (s : St) (pw : Int) (hI : Inv s pw) (es : List Ev) (hv : Valid s pw es) :
    Spec.Flood.windowFrom (es.map fun e => (e.chars, e.w)) = true := by
  cases es with
  | nil => rfl
  | cons e1 rest =>
    have := go_ok s pw hI e1 [] rest (headCharge rest) rfl hv
    have htc : totalCharge [e1] = Spec.Flood.chargeOf e1.chars := by simp [totalCharge, Go.Extra.chargeOf_eq]
    rw [htc] at this
    cases rest with
    | nil => rfl
    | cons e2 rest => exact this

theorem windowOk_of_inv (s : St) (pw : Int) (hI : Inv s pw) (es : List Ev) (hv : Valid s pw es) :
    Spec.Flood.windowOk (es.map fun e => (e.chars, e.w)) = true := by
  induction es generalizing s pw with
  | nil => rfl
  | cons e es ih =>
    have h1 := windowFrom_ok s pw hI (e :: es) hv
    obtain ⟨a, b, c, d⟩ := hv
    have h2 := ih (next s e) e.w (inv_next s pw e hI a c) d
    simp only [List.map_cons] at h1 ⊢
    simp only [Spec.Flood.windowOk, Bool.and_eq_true]
    exact ⟨h1, h2⟩

def NoHold : St → List Ev → Prop
  | _, [] => True
  | s, e :: es => delay s e = 0 ∧ NoHold (next s e) es

/-- `b` bounds what is left of the penalty when the first line is charged; elapsed time only ever lowers it. -/
theorem noHold_of_budget (s : St) (pw : Int) (es : List Ev) (hl : s.lastsent ≤ pw) (hv : Valid s pw es)
    (b : Int) (hb0 : 0 ≤ b) (hb : ∀ e ∈ es.head?, s.badness - (e.t - s.lastsent) ≤ b)
    (hsum : b + totalCharge es ≤ 10 * second) : NoHold s es := by
  induction es generalizing s pw b with
  | nil => trivial
  | cons e es ih =>
    obtain ⟨h1, h2, h3, h4⟩ := hv
    have := charge_pos e.chars
    have := second_pos
    have := totalCharge_nonneg es
    have := next_badness s e
    have := next_lastsent s e
    have := hb e rfl
    rw [totalCharge_cons] at hsum
    have hd : delay s e = 0 := by rw [delay_eq, if_neg]; omega
    refine ⟨hd, ih (next s e) e.w (by omega) h4 (b + charge e.chars) (by omega) ?_ (by omega)⟩
    -- the next line is charged no earlier than this one was written
    intro e' he'
    cases es with
    | nil => cases he'
    | cons e'' es => cases he'; have := h4.1; omega

end Go.Flood
