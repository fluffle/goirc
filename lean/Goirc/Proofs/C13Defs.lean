import Goirc.Spec.Net
import Goirc.Model.Client
import Goirc.Proofs.Tracker
/-!
# C13: definitions shared by the proof files

* relational twins of the state handlers: the same sequence of `Spec.Tracker.step` calls and the
  same branching as `Go.Client.h_*`, acting on `Spec.Tracker.S`;
* `CRx`: the client's heap tracker is related by `R` to a relational state;
* `Eqv`: two relational states are the same finite maps;
* `NetInv`: the invariant of the model network.
-/
namespace Proofs.C13
open Go Go.Client Go.Tracker Spec.Tracker Spec.Net

/-- the relational tracker state -/
abbrev TS := Spec.Tracker.S

/-- state after one relational operation -/
abbrev sx (S : TS) (o : Op) : TS := (Spec.Tracker.step S o).1

/-- `cfg.Me.Name` after `refreshMe`, on the relational side -/
def meName (S : TS) : Bytes := ((AL.lookup S.nicks S.me).getD {}).name

/-- what `IsOn` reports -/
def sIsOn (S : TS) (c n : Bytes) : Bool := AL.has S.nicks n && AL.has S.chans c && AL.has S.mem (c, n)

/-! ## twins -/

def t_001 (S : TS) (l : Line) : TS :=
  let S1 := match parseUserHost (lastWord l.text) with
    | some (_, ident, host) => sx S (.nickInfo S.me ident host (meName S))
    | none => S
  sx S1 (.reNick S.me l.target)

def t_433 (nn : Bytes → Bytes) (S : TS) (l : Line) : TS :=
  match arg l 1 with
  | none => S
  | some refused => if refused == S.me then sx S (.reNick S.me (nn refused)) else S

def t_STNICK (S : TS) (l : Line) : TS :=
  match arg l 0 with
  | none => S
  | some a => sx S (.reNick l.nick a)

def t_JOIN (S : TS) (l : Line) : TS :=
  match arg l 0 with
  | none => S
  | some chn =>
    if !AL.has S.chans chn && !(AL.has S.nicks l.nick && l.nick == S.me) then S
    else
      let S3 := if !AL.has S.chans chn then sx S (.newChannel chn) else S
      let S4 := if !AL.has S.nicks l.nick then sx (sx S3 (.newNick l.nick)) (.nickInfo l.nick l.ident l.host []) else S3
      sx S4 (.associate chn l.nick)

def t_PART (S : TS) (l : Line) : TS :=
  match arg l 0 with
  | none => S
  | some chn => sx S (.dissociate chn l.nick)

def t_KICK (S : TS) (l : Line) : TS :=
  match arg l 0, arg l 1 with
  | some chn, some who => sx S (.dissociate chn who)
  | _, _ => S

def t_QUIT (S : TS) (l : Line) : TS := sx S (.delNick l.nick)

def t_MODE (S : TS) (l : Line) : TS :=
  match arg l 0, arg l 1 with
  | some t, some m =>
    if AL.has S.chans t then sx S (.channelModes t m (l.args.drop 2))
    else if AL.has S.nicks t then (if t == S.me then sx S (.nickModes t m) else S)
    else S
  | _, _ => S

def t_TOPIC (S : TS) (l : Line) : TS :=
  match arg l 0, arg l 1 with
  | some chn, some t => if AL.has S.chans chn then sx S (.topic chn t) else S
  | _, _ => S

def t_311 (S : TS) (l : Line) : TS :=
  match arg l 1, arg l 2, arg l 3, arg l 5 with
  | some n, some i, some h, some name =>
    if AL.has S.nicks n then (if n != S.me then sx S (.nickInfo n i h name) else S) else S
  | _, _, _, _ => S

def t_324 (S : TS) (l : Line) : TS :=
  match arg l 1, arg l 2 with
  | some chn, some m => if AL.has S.chans chn then sx S (.channelModes chn m (l.args.drop 3)) else S
  | _, _ => S

def t_332 (S : TS) (l : Line) : TS :=
  match arg l 1, arg l 2 with
  | some chn, some t => if AL.has S.chans chn then sx S (.topic chn t) else S
  | _, _ => S

def t_352 (S : TS) (l : Line) : TS :=
  match arg l 2, arg l 3, arg l 5 with
  | some ident, some host, some n =>
    if !AL.has S.nicks n then S
    else if n == S.me then S
    else
      match cut (l.args.getLast?.getD []) [32] with
      | (_, none) => S
      | (_, some real) =>
        let S2 := sx S (.nickInfo n ident host real)
        match arg l 6 with
        | none => S2
        | some flags =>
          let S3 := if Go.Client.contains flags 42 then sx S2 (.nickModes n (lit "+o")) else S2
          let S4 := if Go.Client.contains flags 66 then sx S3 (.nickModes n (lit "+B")) else S3
          let S5 := if Go.Client.contains flags 72 then sx S4 (.nickModes n (lit "+i")) else S4
          S5
  | _, _, _ => S

/-- one word of a NAMES reply -/
def tName (chn : Bytes) (S : TS) (w : Bytes) : TS :=
  match w with
  | [] => S
  | b :: tl =>
    let nick := if (prefixMode b).isSome then tl else w
    let S2 := if !AL.has S.nicks nick then sx S (.newNick nick) else S
    let S4 := if sIsOn S2 chn nick then S2 else sx S2 (.associate chn nick)
    match prefixMode b with
    | some m => sx S4 (.channelModes chn m [nick])
    | none => S4

def tNames (chn : Bytes) (S : TS) (ws : List Bytes) : TS := ws.foldl (tName chn) S

def t_353 (S : TS) (l : Line) : TS :=
  match arg l 2 with
  | some chn => if AL.has S.chans chn then tNames chn S (splitByte 32 [] (l.args.getLast?.getD [])) else S
  | none => S

def t_671 (S : TS) (l : Line) : TS :=
  match arg l 1 with
  | some n => if AL.has S.nicks n then sx S (.nickModes n (lit "+z")) else S
  | none => S

def stTwin (ev : Bytes) : Option (TS → Line → TS) :=
  if ev == lit "join" then some t_JOIN
  else if ev == lit "kick" then some t_KICK
  else if ev == lit "mode" then some t_MODE
  else if ev == lit "nick" then some t_STNICK
  else if ev == lit "part" then some t_PART
  else if ev == lit "quit" then some t_QUIT
  else if ev == lit "topic" then some t_TOPIC
  else if ev == lit "311" then some t_311
  else if ev == lit "324" then some t_324
  else if ev == lit "332" then some t_332
  else if ev == lit "352" then some t_352
  else if ev == lit "353" then some t_353
  else if ev == lit "671" then some t_671
  else none

/-- the twin of `dispatchInternal` while tracking is on -/
def tDispatch (ext : UnicodeExt) (nn : Bytes → Bytes) (S : TS) (l : Line) : TS :=
  let ev := toLower ext l.cmd
  let S1 := if ev == lit "001" then t_001 S l else if ev == lit "433" then t_433 nn S l else S
  match stTwin ev with
  | some t => t S1 l
  | none => S1

/-- the twin of `Props.C13.feed` -/
def tFeed (ext : UnicodeExt) (nn : Bytes → Bytes) : S → List Bytes → S
  | S, [] => S
  | S, l :: ls => match parseLine ext l with
    | some ln => tFeed ext nn (tDispatch ext nn S ln) ls
    | none => tFeed ext nn S ls

/-! ## relations -/

/-- the client tracks, its tracker refines `S`, and it has the given case tables and nick generator -/
def CRx (ext : UnicodeExt) (nn : Bytes → Bytes) (c : Client) (S : TS) : Prop :=
  c.ext = ext ∧ c.newNick = nn ∧ ∃ st, c.st = some st ∧ R st S

/-- equal as finite maps -/
structure Eqv (A B : TS) : Prop where
  nicks : ∀ k, AL.lookup A.nicks k = AL.lookup B.nicks k
  chans : ∀ k, AL.lookup A.chans k = AL.lookup B.chans k
  mem : ∀ k, AL.lookup A.mem k = AL.lookup B.mem k
  me : A.me = B.me

/-- memberships only relate known channels and known nicks -/
def WFS (S : TS) : Prop := ∀ c u, AL.has S.mem (c, u) = true → AL.has S.chans c = true ∧ AL.has S.nicks u = true

/-! ## names -/

/-- a nickname does not start with a channel prefix (`#`) or a membership prefix (`~ & @ % +`) -/
def nickHeadOk (s : Bytes) : Bool :=
  match s.head? with
  | some b => !([35, 126, 38, 64, 37, 43].contains b)
  | none => true

def nickOk (s : Bytes) : Bool := nameOk s && nickHeadOk s

/-! ## the invariant of the model network -/

structure ChanInv (n : Net) (c : Bytes) (ch : NChan) : Prop where
  name : chanOk c = true
  topic : textOk ch.topic = true
  key : ch.modes.key = [] ∨ nameOk ch.modes.key = true
  limit : 0 ≤ ch.modes.limit ∧ ch.modes.limit < 100000
  members_nodup : (AL.keys ch.members).Nodup
  members_users : ∀ u, AL.has ch.members u = true → AL.has n.users u = true

structure NetInv (n : Net) : Prop where
  me_view : n.view.me = n.me
  me_user : AL.has n.users n.me = true
  users_ok : ∀ u x, AL.lookup n.users u = some x →
    nickOk u = true ∧ nameOk x.ident = true ∧ nameOk x.host = true ∧ textOk x.real = true
  chans_nodup : (AL.keys n.chans).Nodup
  chan_inv : ∀ c ch, AL.lookup n.chans c = some ch → ChanInv n c ch
  view_chans : ∀ c, AL.has n.view.chans c = onChan n n.me c
  view_mem : ∀ c u, AL.has n.view.mem (c, u) = (onChan n n.me c && onChan n u c)
  view_nicks : ∀ u, AL.has n.view.nicks u = (u == n.me || sharesWithMe n u)
  view_mem_nodup : (AL.keys n.view.mem).Nodup

/-- what the session theorem asks of an event beyond `conforms`: a new nickname is a nickname -/
def evOk : Event → Prop
  | .nick _ nw => nickHeadOk nw = true
  | _ => True

/-! ## copies of the definitions of `Goirc/Props/C13.lean` (which imports the proof files) -/

def feed (c : Client) : List Bytes → Client
  | [] => c
  | l :: ls => match parseLine c.ext l with
    | some ln => feed (dispatchInternal c ln).c ls
    | none => feed c ls

def runNet : Net → Client → List Event → Net × Client
  | n, c, [] => (n, c)
  | n, c, e :: es =>
    if conforms n e then runNet (serverStep n e).1 (feed c (serverStep n e).2) es
    else runNet n c es

def Holds (st : St) (view : TS) : Prop :=
  (∀ name, Props.C12.RetEq (Go.Tracker.step st (.getNick name)).2 (Spec.Tracker.step view (.getNick name)).2) ∧
  (∀ name, Props.C12.RetEq (Go.Tracker.step st (.getChannel name)).2 (Spec.Tracker.step view (.getChannel name)).2) ∧
  (∀ c n, Props.C12.RetEq (Go.Tracker.step st (.isOn c n)).2 (Spec.Tracker.step view (.isOn c n)).2) ∧
  Props.C12.RetEq (Go.Tracker.step st .me).2 (Spec.Tracker.step view .me).2

def Safe (st : St) : Prop :=
  (∃ n, (Go.Tracker.step st .me).2 = .nick (some n) ∧ ∃ m, (Go.Tracker.step st (.getNick n.nick)).2 = .nick (some m)) ∧
  (∀ c cs, (Go.Tracker.step st (.getChannel c)).2 = .chan (some cs) →
     ∃ n, (Go.Tracker.step st .me).2 = .nick (some n) ∧ ∃ p, (Go.Tracker.step st (.isOn c n.nick)).2 = .privs p true) ∧
  (∀ u us, (Go.Tracker.step st (.getNick u)).2 = .nick (some us) →
     (∃ n, (Go.Tracker.step st .me).2 = .nick (some n) ∧ n.nick = u) ∨ us.channels ≠ [])

/-- the relational counterpart of `Safe` -/
structure SafeS (S : TS) : Prop where
  me : AL.has S.nicks S.me = true
  chan_me : ∀ c, AL.has S.chans c = true → AL.has S.mem (c, S.me) = true
  nick_chan : ∀ u, AL.has S.nicks u = true → u = S.me ∨ ∃ c, AL.has S.mem (c, u) = true
  wfs : WFS S

end Proofs.C13
