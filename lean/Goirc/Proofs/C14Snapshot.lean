import Goirc.Model.Snapshot
import Goirc.Proofs.Bump
/-!
# C14, first half: a snapshot is a fresh copy

The heap only grows (`Ext`, over `Proofs/Bump.lean`). Copying a record allocates its contents (`copyRec_eq`, `copyObj`), so the
loop over the cells (`copyCells_spec`) and the whole `snapshot` (`snapshot_spec`) each leave the old heap as it was, hand out
references in the fresh range only, and show, through `view`, the copies of what was there. `view` reads only what is reachable
from the snapshot (`view_congr`) and a write elsewhere changes no read (`read_applyWrites`): the clauses of Props/C14 follow.
-/
namespace Go.Snapshot

@[simp] theorem alloc_next (h : Heap) (o : Obj) : (alloc h o).1.next = h.next + 1 := rfl
@[simp] theorem alloc_ref (h : Heap) (o : Obj) : (alloc h o).2 = h.next := rfl

theorem read_alloc {h : Heap} (hb : Bounded h) (o : Obj) (r : Ref) :
    read (alloc h o).1 r = if r = h.next then some o else read h r := AL.lookup_alloc hb o r

theorem read_alloc_new {h : Heap} (hb : Bounded h) (o : Obj) : read (alloc h o).1 h.next = some o := by
  rw [read_alloc hb, if_pos rfl]

abbrev Ext (h h' : Heap) : Prop := AL.Ext h.objs h.next h'.objs h'.next

theorem Ext.read {h h' : Heap} (x : Ext h h') {r : Ref} (hr : r < h.next) : read h' r = read h r := x.lookup r hr

theorem Ext.alloc {h : Heap} (hb : Bounded h) (o : Obj) : Ext h (alloc h o).1 := AL.Ext.alloc hb o

def copyObj (h : Heap) (r : Ref) : Obj :=
  match read h r with | some (.record f) => .record f | _ => .record []

theorem copyRec_eq (h : Heap) (r : Ref) : copyRec h r = alloc h (copyObj h r) := rfl

theorem copyObj_of_record {h : Heap} {r : Ref} {f : List Bytes} (hr : read h r = some (.record f)) :
    some (copyObj h r) = read h r := by
  simp [copyObj, hr]

theorem copyObj_congr {h h' : Heap} {r : Ref} (e : read h' r = read h r) : copyObj h' r = copyObj h r := by
  simp [copyObj, e]

theorem copyCells_cons (h : Heap) (n : Bytes) (c : Ref) (rest : List (Bytes × Ref)) :
    copyCells h ((n, c) :: rest) =
      ((copyCells (alloc h (copyObj h c)).1 rest).1, (n, h.next) :: (copyCells (alloc h (copyObj h c)).1 rest).2) := rfl

theorem copyCells_spec (cells : List (Bytes × Ref)) : ∀ {h : Heap}, Bounded h →
    Ext h (copyCells h cells).1 ∧
    (∀ e ∈ (copyCells h cells).2, h.next ≤ e.2 ∧ e.2 < (copyCells h cells).1.next) ∧
    ((∀ e ∈ cells, e.2 < h.next) →
      (copyCells h cells).2.map (fun e => (e.1, read (copyCells h cells).1 e.2)) =
        cells.map (fun e => (e.1, some (copyObj h e.2)))) := by
  induction cells with
  | nil => exact fun hb => ⟨AL.Ext.refl hb, fun _ he => absurd he List.not_mem_nil, fun _ => rfl⟩
  | cons e rest ih =>
    intro h hb
    obtain ⟨n, c⟩ := e
    rw [copyCells_cons]
    have x1 := Ext.alloc hb (copyObj h c)
    obtain ⟨x2, hfresh, hread⟩ := ih x1.below
    refine ⟨x1.trans x2, fun e he => ?_, fun hlt => ?_⟩
    · rcases List.mem_cons.1 he with rfl | he
      · exact ⟨Nat.le_refl _, Nat.lt_of_lt_of_le (Nat.lt_succ_self _) x2.le⟩
      · exact ⟨Nat.le_of_succ_le (hfresh e he).1, (hfresh e he).2⟩
    · have hlt' := fun e he => hlt e (List.mem_cons_of_mem _ he)
      rw [List.map_cons, List.map_cons, x2.read (Nat.lt_succ_self _), read_alloc_new hb,
        hread fun e he => Nat.lt_succ_of_lt (hlt' e he)]
      congr 1
      exact List.map_congr_left fun e he => by rw [copyObj_congr (x1.read (hlt' e he))]

theorem snapshot_eq (h : Heap) (x : Internal) :
    snapshot h x =
      ((alloc (copyCells (alloc h (copyObj h x.modes)).1 x.cells).1
          (.map (copyCells (alloc h (copyObj h x.modes)).1 x.cells).2)).1,
        { scalars := x.scalars, modes := h.next,
          members := (copyCells (alloc h (copyObj h x.modes)).1 x.cells).1.next }) := rfl

theorem snapshot_spec (h : Heap) (x : Internal) (hb : Bounded h) :
    Ext h (snapshot h x).1 ∧
    (∀ r ∈ reach (snapshot h x).1 (snapshot h x).2, h.next ≤ r ∧ r < (snapshot h x).1.next) ∧
    ((∀ e ∈ x.cells, e.2 < h.next) →
      view (snapshot h x).1 (snapshot h x).2 =
        (x.scalars, some (copyObj h x.modes), x.cells.map fun e => (e.1, some (copyObj h e.2)))) := by
  have x1 := Ext.alloc hb (copyObj h x.modes)
  obtain ⟨x2, hfresh, hread⟩ := copyCells_spec x.cells x1.below
  rw [snapshot_eq]
  generalize copyCells (alloc h (copyObj h x.modes)).1 x.cells = cc at *
  obtain ⟨h2, es⟩ := cc
  have x3 := Ext.alloc x2.below (.map es)
  have hlt : h.next < h2.next := Nat.lt_of_lt_of_le (Nat.lt_succ_self _) x2.le
  have hmodes : read (alloc h2 (.map es)).1 h.next = some (copyObj h x.modes) := by
    rw [x3.read hlt, x2.read (Nat.lt_succ_self _), read_alloc_new hb]
  have hmem : read (alloc h2 (.map es)).1 h2.next = some (.map es) := read_alloc_new x2.below _
  refine ⟨x1.trans (x2.trans x3), fun r hr => ?_, fun hcells => ?_⟩
  · simp only [reach, hmem, List.mem_cons, List.mem_map] at hr
    rcases hr with rfl | rfl | ⟨e, he, rfl⟩
    · exact ⟨Nat.le_refl _, Nat.lt_succ_of_lt hlt⟩
    · exact ⟨Nat.le_of_lt hlt, Nat.lt_succ_self _⟩
    · exact ⟨Nat.le_of_succ_le (hfresh e he).1, Nat.lt_succ_of_lt (hfresh e he).2⟩
  · simp only [view, hmodes, hmem]
    rw [List.map_congr_left fun e he => by rw [x3.read (hfresh e he).2],
      hread fun e he => Nat.lt_succ_of_lt (hcells e he)]
    congr 2
    exact List.map_congr_left fun e he => by rw [copyObj_congr (x1.read (hcells e he))]

theorem view_congr {h h' : Heap} {s : Snap} (e : ∀ r ∈ reach h s, read h' r = read h r) : view h' s = view h s := by
  have hmem := e s.members (List.mem_cons_of_mem _ List.mem_cons_self)
  simp only [view, e s.modes List.mem_cons_self, hmem]
  congr 2
  cases hr : read h s.members with
  | none => rfl
  | some o =>
    cases o with
    | record f => rfl
    | map es =>
      exact List.map_congr_left fun c hc => by
        rw [e c.2 (by simp only [reach, hr, List.mem_cons, List.mem_map]; exact Or.inr (Or.inr ⟨c, hc, rfl⟩))]

theorem read_write (h : Heap) (r' : Ref) (o : Obj) (r : Ref) :
    read (write h r' o) r = if r' = r then some o else read h r := AL.lookup_insert h.objs r' o r

theorem read_applyWrites (ws : List (Ref × Obj)) : ∀ (h : Heap) (r : Ref), (∀ w ∈ ws, w.1 ≠ r) →
    read (applyWrites h ws) r = read h r := by
  induction ws with
  | nil => intro h r _; rfl
  | cons w ws ih =>
    intro h r hne
    rw [applyWrites, ih _ r (fun w' hw' => hne w' (List.mem_cons_of_mem _ hw')), read_write,
      if_neg (hne w List.mem_cons_self)]

end Go.Snapshot
