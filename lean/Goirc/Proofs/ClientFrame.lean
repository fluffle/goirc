import Goirc.Proofs.Client
/-!
# What most handlers leave aside

Only `h_REGISTER` looks at the password, and only `h_CAP` and `h_AUTHENTICATE` at the pending SASL response. For the other
twenty-two handlers this is one statement, `Ignores`: the handler commutes with every replacement of the two. Replacing them
by what they already are shows that they are kept; replacing them by anything else shows that the result does not depend on
them.
-/
namespace Go.Client
open Go.Tracker

def aside (p : Bytes) (x : Option Bytes) (c : Client) : Client :=
  { c with cfg := { c.cfg with pass := p }, saslRemaining := x }

def HR.map (u : Client → Client) (r : HR) : HR := { r with c := u r.c }

def Ignores (h : Client → Line → HR) : Prop := ∀ p x c l, h (aside p x c) l = (h c l).map (aside p x)

theorem Ignores.keeps {h : Client → Line → HR} (H : Ignores h) (c : Client) (l : Line) :
    (h c l).c.saslRemaining = c.saslRemaining :=
  congrArg (·.c.saslRemaining) (H c.cfg.pass c.saslRemaining c l)

section
variable (p : Bytes) (x : Option Bytes)

theorem aside_cfg (c : Client) : (aside p x c).cfg = { c.cfg with pass := p } := rfl
theorem aside_st (c : Client) : (aside p x c).st = c.st := rfl
theorem aside_newNick (c : Client) : (aside p x c).newNick = c.newNick := rfl
theorem emit_aside (c : Client) (cmd : Cmd) : emit (aside p x c) cmd = emit c cmd := rfl
theorem setMeFrom_aside (c : Client) (n : NickSnap) : setMeFrom (aside p x c) n = aside p x (setMeFrom c n) := rfl
theorem tk_aside (c : Client) (o : Op) : tk (aside p x c) o = (aside p x (tk c o).1, (tk c o).2) := by
  unfold tk; cases h : c.st <;> simp [h, aside]
theorem refreshMe_aside (c : Client) : refreshMe (aside p x c) = aside p x (refreshMe c) := by
  unfold refreshMe; cases h : c.st <;> simp [h, aside]
theorem isMe_aside (c : Client) (nk : Option NickSnap) : isMe (aside p x c) nk = isMe c nk := by
  unfold isMe; rw [refreshMe_aside]; rfl
/-- with this a handler's `if .. then (tk c o).1 else c` needs no case split -/
theorem ite_aside (b : Prop) [Decidable b] (a c : Client) :
    (if b then aside p x a else aside p x c) = aside p x (if b then a else c) := (apply_ite _ _ _ _).symm

end

/-! Each proof below follows the handler's text: `aside` is moved out of the helpers, a `match` is split, an `if` is taken apart by
`HR.map_ite` (splitting it would rewrite its condition all over a large goal), and the leaves hold by `rfl`. -/

theorem HR.map_ite {u : Client → Client} {b : Prop} [Decidable b] {r s r' s' : HR}
    (hr : r' = r.map u) (hs : s' = s.map u) : (if b then r' else s') = (if b then r else s).map u := by
  subst hr hs; exact (apply_ite _ _ _ _).symm

theorem ignores_PING : Ignores h_PING := by
  intro p x c l; unfold h_PING
  split <;> rfl

theorem ignores_001 : Ignores h_001 := by
  intro p x c l; unfold h_001
  rcases parseUserHost (lastWord l.text) with _ | ⟨_, ident, host⟩ <;>
  · simp only [refreshMe_aside, aside_cfg, aside_st, tk_aside, setMeFrom_aside]
    refine HR.map_ite rfl ?_
    split
    · split <;> rfl
    · rfl

theorem ignores_433 : Ignores h_433 := by
  intro p x c l; unfold h_433
  simp only [refreshMe_aside, aside_cfg, aside_st, aside_newNick, emit_aside, tk_aside, setMeFrom_aside]
  refine HR.map_ite rfl ?_
  split
  · rfl
  · refine HR.map_ite ?_ rfl
    split
    · split <;> rfl
    · rfl

theorem ignores_CTCP : Ignores h_CTCP := by
  intro p x c l; unfold h_CTCP
  split
  · rfl
  · exact HR.map_ite rfl (HR.map_ite (by split <;> rfl) rfl)

theorem ignores_NICK : Ignores h_NICK := by
  intro p x c l; unfold h_NICK
  simp only [aside_st, aside_cfg]
  split
  · rfl
  · exact HR.map_ite rfl (HR.map_ite (by split <;> rfl) rfl)

theorem ignores_410 : Ignores h_410 := by
  intro p x c l; unfold h_410
  split <;> rfl

theorem ignores_903 : Ignores h_903 := fun _ _ _ _ => rfl
theorem ignores_904 : Ignores h_904 := fun _ _ _ _ => rfl

theorem ignores_908 : Ignores h_908 := by
  intro p x c l; unfold h_908
  split <;> rfl

theorem ignores_STNICK : Ignores h_STNICK := by
  intro p x c l; unfold h_STNICK
  simp only [tk_aside]
  split <;> rfl

theorem ignores_JOIN : Ignores h_JOIN := by
  intro p x c l; unfold h_JOIN
  simp only [tk_aside, isMe_aside, refreshMe_aside, emit_aside]
  split
  · rfl
  · refine HR.map_ite rfl ?_
    split <;> split <;> simp only [tk_aside] <;> rfl

theorem ignores_PART : Ignores h_PART := by
  intro p x c l; unfold h_PART
  simp only [tk_aside]
  split <;> rfl

theorem ignores_KICK : Ignores h_KICK := by
  intro p x c l; unfold h_KICK
  simp only [tk_aside]
  split <;> rfl

theorem ignores_QUIT : Ignores h_QUIT := by
  intro p x c l; unfold h_QUIT
  simp only [tk_aside]
  rfl

theorem ignores_MODE : Ignores h_MODE := by
  intro p x c l; unfold h_MODE
  simp only [tk_aside, isMe_aside, refreshMe_aside]
  split
  · exact HR.map_ite rfl (HR.map_ite (HR.map_ite rfl rfl) rfl)
  · rfl

theorem ignores_TOPIC : Ignores h_TOPIC := by
  intro p x c l; unfold h_TOPIC
  simp only [tk_aside]
  split
  · exact HR.map_ite rfl rfl
  · rfl

theorem ignores_311 : Ignores h_311 := by
  intro p x c l; unfold h_311
  simp only [tk_aside, isMe_aside, refreshMe_aside]
  split
  · exact HR.map_ite (HR.map_ite rfl rfl) rfl
  · rfl

theorem ignores_324 : Ignores h_324 := by
  intro p x c l; unfold h_324
  simp only [tk_aside]
  split
  · exact HR.map_ite rfl rfl
  · rfl

theorem ignores_332 : Ignores h_332 := by
  intro p x c l; unfold h_332
  simp only [tk_aside]
  split
  · exact HR.map_ite rfl rfl
  · rfl

theorem ignores_352 : Ignores h_352 := by
  intro p x c l; unfold h_352
  simp only [tk_aside, isMe_aside, refreshMe_aside, ite_aside]
  split
  · split
    · rfl
    · refine HR.map_ite rfl ?_
      split
      · rfl
      · split <;> rfl
  · rfl

theorem ignores_671 : Ignores h_671 := by
  intro p x c l; unfold h_671
  simp only [tk_aside]
  split
  · split <;> rfl
  · rfl

theorem names353_aside (p : Bytes) (x : Option Bytes) (c : Client) (chn : Bytes) (ws : List Bytes) :
    names353 (aside p x c) chn ws = aside p x (names353 c chn ws) := by
  induction ws generalizing c with
  | nil => rfl
  | cons w rest ih =>
    unfold names353
    cases w with
    | nil => exact ih c
    | cons b tl =>
      simp only [tk_aside, ite_aside]
      rw [← ih]
      congr 1
      split <;> split <;> simp only [tk_aside]

theorem ignores_353 : Ignores h_353 := by
  intro p x c l; unfold h_353
  simp only [tk_aside, names353_aside]
  split
  · split <;> rfl
  · rfl

theorem stHandler_ignores {ev : Bytes} {h : Client → Line → HR} (hh : stHandler ev = some h) : Ignores h :=
  stHandler_cases (P := fun _ h => Ignores h) ignores_JOIN ignores_KICK ignores_MODE ignores_STNICK ignores_PART
    ignores_QUIT ignores_TOPIC ignores_311 ignores_324 ignores_332 ignores_352 ignores_353 ignores_671 hh

theorem intHandler_cases_ignores {P : Bytes → (Client → Line → HR) → Prop}
    (hREGISTER : P (lit "register") h_REGISTER) (hCAP : P (lit "cap") h_CAP)
    (hAUTHENTICATE : P (lit "authenticate") h_AUTHENTICATE) (hrest : ∀ ev h, Ignores h → P ev h)
    {ev : Bytes} {h : Client → Line → HR} (hh : intHandler ev = some h) : P ev h :=
  intHandler_cases hREGISTER (hrest _ _ ignores_001) (hrest _ _ ignores_433) (hrest _ _ ignores_CTCP)
    (hrest _ _ ignores_NICK) (hrest _ _ ignores_PING) hCAP (hrest _ _ ignores_410) hAUTHENTICATE
    (hrest _ _ ignores_903) (hrest _ _ ignores_904) (hrest _ _ ignores_908) hh

end Go.Client
