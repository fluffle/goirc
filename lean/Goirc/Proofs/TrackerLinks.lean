import Goirc.Proofs.Tracker
/-! The links between nicks and channels.  `unlink` removes one membership (`ch.delNick(nk)` + `nk.delChannel(ch)`; `delNick`,
`delChannel`, `Dissociate` and `Wipe` are built from it), `Associate` adds one through a fresh privilege cell.  Both set one
link to an `Option Id` in both directions (`relink`), and the simulation relation is kept by that (`R_relink`). -/
namespace Spec.Tracker
open Go.Tracker AL

def unlink (st : St) (c n : Id) : St := nickDelChannel (chanDelNick st c n) n c

def relink (st : St) (c n : Id) (v : Option Id) : St :=
  setN (setC st c { getC st c with nicks := AL.put (getC st c).nicks n v,
                                   lookup := AL.put (getC st c).lookup (getN st n).nick (v.map fun _ => n) }) n
    { getN st n with chans := AL.put (getN st n).chans c v,
                     lookup := AL.put (getN st n).lookup (getC st c).name (v.map fun _ => c) }

theorem unlink_comm (st : St) (c n : Id) : chanDelNick (nickDelChannel st n c) c n = unlink st c n := by
  unfold unlink nickDelChannel chanDelNick
  cases h1 : AL.has (getN st n).chans c <;> cases h2 : AL.has (getC st c).nicks n <;>
    simp [h1, h2, setN, setC]

theorem unlink_of_not_on {st : St} {c n : Id} (h1 : AL.lookup (getN st n).chans c = none)
    (h2 : AL.lookup (getC st c).nicks n = none) : unlink st c n = st := by
  unfold unlink nickDelChannel chanDelNick
  simp [has_eq, h1, h2]

theorem unlink_of_on {st : St} {c n : Id} {cell cell' : Id} (h1 : AL.lookup (getN st n).chans c = some cell)
    (h2 : AL.lookup (getC st c).nicks n = some cell') : unlink st c n = relink st c n none := by
  unfold unlink nickDelChannel chanDelNick relink
  simp [has_eq, h1, h2, AL.put]

theorem nickDelChannel_eq (s : St) (n c : Id) :
    nickDelChannel s n c = if AL.has (getN s n).chans c then
      setN s n { getN s n with chans := AL.erase (getN s n).chans c, lookup := AL.erase (getN s n).lookup (getC s c).name }
    else s := rfl
theorem chanDelNick_eq (s : St) (c n : Id) :
    chanDelNick s c n = if AL.has (getC s c).nicks n then
      setC s c { getC s c with nicks := AL.erase (getC s c).nicks n, lookup := AL.erase (getC s c).lookup (getN s n).nick }
    else s := rfl

theorem keeps_nickDelChannel (s : St) (n c : Id) : Keeps s (nickDelChannel s n c) := by
  rw [nickDelChannel_eq]; split
  · exact Keeps.setN s n _ _
  · exact Keeps.refl s
theorem keeps_chanDelNick (s : St) (c n : Id) : Keeps s (chanDelNick s c n) := by
  rw [chanDelNick_eq]; split
  · exact Keeps.setC s c _ _
  · exact Keeps.refl s
theorem keeps_unlink (st : St) (c n : Id) : Keeps st (unlink st c n) :=
  (keeps_chanDelNick st c n).trans (keeps_nickDelChannel _ n c)

theorem nickDelChannel_proj {β : Type} (π : St → β) (hπ : ∀ s i o, π (setN s i o) = π s) (s : St) (n c : Id) :
    π (nickDelChannel s n c) = π s := by
  rw [nickDelChannel_eq]; split
  · exact hπ _ _ _
  · rfl
theorem chanDelNick_proj {β : Type} (π : St → β) (hπ : ∀ s i o, π (setC s i o) = π s) (s : St) (c n : Id) :
    π (chanDelNick s c n) = π s := by
  rw [chanDelNick_eq]; split
  · exact hπ _ _ _
  · rfl

section frame
variable (st : St) (c n : Id)

@[simp] theorem unlink_nicks : (unlink st c n).nicks = st.nicks :=
  (nickDelChannel_proj (·.nicks) (fun _ _ _ => rfl) _ n c).trans (chanDelNick_proj (·.nicks) (fun _ _ _ => rfl) st c n)
@[simp] theorem unlink_chans : (unlink st c n).chans = st.chans :=
  (nickDelChannel_proj (·.chans) (fun _ _ _ => rfl) _ n c).trans (chanDelNick_proj (·.chans) (fun _ _ _ => rfl) st c n)
@[simp] theorem unlink_me : (unlink st c n).me = st.me := (keeps_unlink st c n).me
@[simp] theorem unlink_getP (j : Id) : getP (unlink st c n) j = getP st j := (keeps_unlink st c n).getP j
@[simp] theorem unlink_nick (j : Id) : (getN (unlink st c n) j).nick = (getN st j).nick := (keeps_unlink st c n).nick j
@[simp] theorem unlink_name (j : Id) : (getC (unlink st c n) j).name = (getC st j).name := (keeps_unlink st c n).name j

theorem getN_chanDelNick (j : Id) : getN (chanDelNick st c n) j = getN st j :=
  chanDelNick_proj (getN · j) (fun _ _ _ => rfl) st c n
theorem getC_nickDelChannel (j : Id) : getC (nickDelChannel st n c) j = getC st j :=
  nickDelChannel_proj (getC · j) (fun _ _ _ => rfl) st n c

theorem unlink_getN_other (j : Id) (h : n ≠ j) : getN (unlink st c n) j = getN st j := by
  refine Eq.trans ?_ (getN_chanDelNick st c n j)
  rw [unlink, nickDelChannel_eq]; split
  · exact (getN_setN _ _ _ _).trans (if_neg h)
  · rfl
theorem unlink_getC_other (j : Id) (h : c ≠ j) : getC (unlink st c n) j = getC st j := by
  refine (getC_nickDelChannel _ c n j).trans ?_
  rw [chanDelNick_eq]; split
  · exact (getC_setC _ _ _ _).trans (if_neg h)
  · rfl
theorem unlink_nchans_self : (getN (unlink st c n) n).chans = AL.erase (getN st n).chans c := by
  rw [unlink, nickDelChannel_eq, getN_chanDelNick]; split
  · rw [getN_setN, if_pos rfl]
  · rename_i h
    rw [getN_chanDelNick, erase_of_lookup_none ((has_false_iff _ _).1 (Bool.not_eq_true _ ▸ h))]
theorem unlink_cnicks_self : (getC (unlink st c n) c).nicks = AL.erase (getC st c).nicks n := by
  rw [unlink, getC_nickDelChannel, chanDelNick_eq]; split
  · rw [getC_setC, if_pos rfl]
  · rename_i h
    rw [erase_of_lookup_none ((has_false_iff _ _).1 (Bool.not_eq_true _ ▸ h))]

/-- `unlink` reads and writes the two object heaps only, so it commutes with any change `g` of the other fields -/
theorem unlink_comm_reg (g : St → St) (hN : ∀ s i, getN (g s) i = getN s i) (hC : ∀ s i, getC (g s) i = getC s i)
    (gN : ∀ s i o, g (setN s i o) = setN (g s) i o) (gC : ∀ s i o, g (setC s i o) = setC (g s) i o) :
    unlink (g st) c n = g (unlink st c n) := by
  have e1 : chanDelNick (g st) c n = g (chanDelNick st c n) := by
    rw [chanDelNick_eq, chanDelNick_eq, hC, hN]; split
    · exact (gC _ _ _).symm
    · rfl
  rw [unlink, unlink, e1, nickDelChannel_eq, nickDelChannel_eq, hN, hC]; split
  · exact (gN _ _ _).symm
  · rfl
theorem unlink_set_nicks (x : List (Bytes × Id)) :
    unlink { st with nicks := x } c n = { unlink st c n with nicks := x } :=
  unlink_comm_reg st c n (fun s => { s with nicks := x }) (fun _ _ => rfl) (fun _ _ => rfl) (fun _ _ _ => rfl) (fun _ _ _ => rfl)
theorem unlink_set_chans (x : List (Bytes × Id)) :
    unlink { st with chans := x } c n = { unlink st c n with chans := x } :=
  unlink_comm_reg st c n (fun s => { s with chans := x }) (fun _ _ => rfl) (fun _ _ => rfl) (fun _ _ _ => rfl) (fun _ _ _ => rfl)
end frame

theorem keeps_relink (st : St) (c n : Id) (v : Option Id) : Keeps st (relink st c n v) :=
  (Keeps.setC st c _ _).trans (Keeps.setN _ n _ _)

theorem R_relink {st : St} {S : S} (r : R st S) {cn a : Bytes} {c n : Id}
    (hc : AL.lookup st.chans cn = some c) (hn : AL.lookup st.nicks a = some n) (v : Option Id)
    (hv : ∀ cell, v = some cell → cell < st.fresh ∧
            ∀ j, LiveN st j → ∀ d, AL.lookup (getN st j).chans d ≠ some cell) :
    R (relink st c n v) { S with mem := AL.put S.mem (cn, a) (v.map (getP st)) } := by
  obtain ⟨w, ab⟩ := r
  have lc := w.liveC hc
  have ln := w.liveN hn
  have hnn := w.nick_name a n hn
  have k := keeps_relink st c n v
  generalize hs : relink st c n v = s
  rw [hs] at k
  -- what `k` does not say: the registries are as they were
  have e1 : s.nicks = st.nicks := by subst hs; rfl
  have e2 : s.chans = st.chans := by subst hs; rfl
  have e3 : ∀ j d, AL.lookup (getN s j).chans d =
      if n = j ∧ c = d then v else AL.lookup (getN st j).chans d := by
    intro j d; subst hs; simp only [relink, getN_setN]
    by_cases hj : n = j
    · subst hj; simp only [if_true, lookup_put, true_and]
    · simp [hj]
  have e4 : ∀ d j, AL.lookup (getC s d).nicks j =
      if n = j ∧ c = d then v else AL.lookup (getC st d).nicks j := by
    intro d j; subst hs; simp only [relink, getC_setN, getC_setC]
    by_cases hd : c = d
    · subst hd; simp only [if_true, lookup_put, and_true]
    · simp [hd]
  have e5 : ∀ d b, AL.lookup (getC s d).lookup b =
      if c = d ∧ a = b then v.map (fun _ => n) else AL.lookup (getC st d).lookup b := by
    intro d b; subst hs; simp only [relink, getC_setN, getC_setC]
    by_cases hd : c = d
    · subst hd; simp only [if_true, lookup_put, true_and, hnn]
    · simp [hd]
  -- the two maps that `WF` wants duplicate-free, as lists
  have e6 : ∀ j, n ≠ j → (getN s j).chans = (getN st j).chans := by
    intro j hj; subst hs; simp [relink, hj]
  have e7 : (getN s n).chans = AL.put (getN st n).chans c v := by
    subst hs; simp [relink]
  have e8 : ∀ j, c ≠ j → (getC s j).nicks = (getC st j).nicks := by
    intro j hj; subst hs; simp [relink, hj]
  have e9 : (getC s c).nicks = AL.put (getC st c).nicks n v := by
    subst hs; simp [relink]
  clear hs
  have lN : ∀ j, LiveN s j ↔ LiveN st j := by intro j; simp only [LiveN, e1, k.nick]
  have lC : ∀ j, LiveC s j ↔ LiveC st j := by intro j; simp only [LiveC, e2, k.name]
  constructor
  · constructor
    · simp only [e1, k.nick]; exact w.nick_name
    · simp only [e2, k.name]; exact w.chan_name
    · simp only [lN, k.me]; exact w.me_live
    · intro i hi; rw [lN] at hi
      by_cases h : n = i
      · subst h; rw [e7]; exact nodup_put (w.nk_nodup _ hi) _ _
      · rw [e6 i h]; exact w.nk_nodup i hi
    · intro i hi; rw [lC] at hi
      by_cases h : c = i
      · subst h; rw [e9]; exact nodup_put (w.ch_nodup _ hi) _ _
      · rw [e8 i h]; exact w.ch_nodup i hi
    · intro i hi d cell hx
      rw [lN] at hi; rw [e3] at hx; rw [lC, e4]
      split
      · rename_i h; obtain ⟨rfl, rfl⟩ := h; rw [if_pos ⟨rfl, rfl⟩] at hx; exact ⟨lc, hx⟩
      · rename_i h; rw [if_neg h] at hx; exact w.nk_ch i hi d cell hx
    · intro d hd i cell hx
      rw [lC] at hd; rw [e4] at hx; rw [lN, e3]
      split
      · rename_i h; obtain ⟨rfl, rfl⟩ := h; rw [if_pos ⟨rfl, rfl⟩] at hx; exact ⟨ln, hx⟩
      · rename_i h; rw [if_neg h] at hx; exact w.ch_nk d hd i cell hx
    · intro d hd
      refine ch_lookup_of_eq (st := s) (by simp only [e1, k.nick]; exact w.nick_name) (fun i hi => ?_) fun b => ?_
      · obtain ⟨cell, hx⟩ := (has_true_iff _ _).1 hi
        rw [e4] at hx; rw [lN]
        split at hx
        · rename_i h; rw [← h.1]; exact ln
        · exact (w.ch_nk d ((lC d).1 hd) i cell hx).1
      · rw [e5, e1, w.clookup_eq ((lC d).1 hd)]
        simp only [has_eq, e4]
        -- at `(c, a)` the entry is there exactly if `v` is; elsewhere registry and membership test are as before
        by_cases h : c = d ∧ a = b
        · obtain ⟨rfl, rfl⟩ := h
          rw [if_pos ⟨rfl, rfl⟩, hn, Option.filter_some]
          simp only [and_self, if_true]
          cases v <;> rfl
        · rw [if_neg h]
          cases hb : AL.lookup st.nicks b with
          | none => rfl
          | some j =>
            have : ¬ (n = j ∧ c = d) := fun h' => h ⟨h'.2, w.nick_inj hn (h'.1 ▸ hb)⟩
            simp only [Option.filter_some, if_neg this]
    · intro i hi j hj d d' cell hx hy
      rw [lN] at hi hj; rw [e3] at hx hy
      split at hx
      · rename_i h; obtain ⟨rfl, rfl⟩ := h
        split at hy
        · rename_i h; exact h
        · exact absurd hy ((hv cell hx).2 j hj d')
      · split at hy
        · exact absurd hx ((hv cell hy).2 i hi d)
        · exact w.cell_inj i hi j hj d d' cell hx hy
    · rw [e1, k.fresh]; exact w.fresh_nick
    · rw [e2, k.fresh]; exact w.fresh_chan
    · intro i hi d cell hx
      rw [lN] at hi; rw [e3] at hx; rw [k.fresh]
      split at hx
      · exact (hv cell hx).1
      · exact w.fresh_cell i hi d _ hx
  · constructor
    · simp only [e1, k.absN]; exact ab.nicks
    · simp only [e2, k.absC]; exact ab.chans
    · intro dn b
      simp only [lookup_put, e1, e2, (funext k.getP : getP s = getP st), Prod.mk.injEq]
      split
      · rename_i h; obtain ⟨rfl, rfl⟩ := h
        simp [hc, hn, e3]
      · rename_i hne
        rw [ab.mem]
        refine Option.bind_congr fun d hd => Option.bind_congr fun j hj => ?_
        rw [e3, if_neg]
        rintro ⟨rfl, rfl⟩; exact hne ⟨w.chan_inj hc hd, w.nick_inj hn hj⟩
    · exact nodup_put ab.mem_nodup _ _
    · rw [e1, k.me]; exact ab.me
    · rw [e2]; exact ab.chan_keys

theorem R_unlink {st : St} {S : S} (r : R st S) {cn a : Bytes} {c n : Id} (hc : AL.lookup st.chans cn = some c)
    (hn : AL.lookup st.nicks a = some n) :
    R (unlink st c n) { S with mem := AL.erase S.mem (cn, a) } := by
  cases h1 : AL.lookup (getN st n).chans c with
  | none =>
    have h2 := (r.1.on_eq (r.1.liveC hc) (r.1.liveN hn)).symm.trans h1
    have : AL.lookup S.mem (cn, a) = none := by rw [r.2.mem, hc, hn]; simp [h1]
    rw [unlink_of_not_on h1 h2, erase_of_lookup_none this]
    exact r
  | some cell0 =>
    have h2 := (r.1.on_eq (r.1.liveC hc) (r.1.liveN hn)).symm.trans h1
    rw [unlink_of_on h1 h2]
    exact R_relink r hc hn none (fun _ h => nomatch h)

theorem R_alloc {st : St} {S : S} (r : R st S) : R { setP st st.fresh {} with fresh := st.fresh + 1 } S :=
  r.of_live_eq rfl rfl rfl (Nat.le_succ _) (fun _ _ => rfl) (fun _ _ => rfl)
    fun _ hj => (getP_setP _ _ _ _).trans (if_neg (Nat.ne_of_gt hj))

/-- the state after `Associate` succeeded -/
def link (st : St) (ci ni : Id) : St :=
  setN (setC { setP st st.fresh {} with fresh := st.fresh + 1 } ci
      { getC st ci with nicks := AL.insert (getC st ci).nicks ni st.fresh,
                        lookup := AL.insert (getC st ci).lookup (getN st ni).nick ni }) ni
    { getN st ni with chans := AL.insert (getN st ni).chans ci st.fresh,
                      lookup := AL.insert (getN st ni).lookup (getC st ci).name ci }

theorem step_associate {st : St} {c n : Bytes} {ci ni : Id} (hc : AL.lookup st.chans c = some ci)
    (hn : AL.lookup st.nicks n = some ni) (h1 : AL.has (getN st ni).chans ci = false)
    (h2 : AL.has (getC st ci).nicks ni = false) :
    Go.Tracker.step st (.associate c n) = (link st ci ni, .assoc (some {})) := by
  simp [Go.Tracker.step, hc, hn, h1, h2, link, setP, setC, setN]

theorem R_link {st : St} {S : S} (r : R st S) {c n : Bytes} {ci ni : Id} (hc : AL.lookup st.chans c = some ci)
    (hn : AL.lookup st.nicks n = some ni) :
    R (link st ci ni) { S with mem := AL.insert S.mem (c, n) {} } := by
  have hl : link st ci ni = relink { setP st st.fresh {} with fresh := st.fresh + 1 } ci ni (some st.fresh) := rfl
  have hp : getP { setP st st.fresh {} with fresh := st.fresh + 1 } st.fresh = {} := by
    show getP (setP st st.fresh {}) st.fresh = {}
    rw [getP_setP, if_pos rfl]
  have := R_relink (R_alloc r) (cn := c) (a := n) (c := ci) (n := ni) hc hn (some st.fresh) (by
    intro cell h; cases h
    exact ⟨Nat.lt_succ_self st.fresh, fun j hj d hx => Nat.lt_irrefl _ (r.1.fresh_cell j hj d _ hx)⟩)
  rw [hl]
  simpa only [Option.map_some, hp, AL.put] using this

theorem sim_associate {st : St} {S : S} (r : R st S) (c n : Bytes) : Sim st S (.associate c n) := by
  unfold Sim
  have hm := r.2.mem c n
  cases hc : AL.lookup st.chans c with
  | none =>
    simp only [Go.Tracker.step, Spec.Tracker.step, r.2.has_chans, has_eq, hc]
    exact ⟨r, rfl⟩
  | some ci =>
    cases hn : AL.lookup st.nicks n with
    | none =>
      simp only [Go.Tracker.step, Spec.Tracker.step, r.2.has_chans, r.2.has_nicks, has_eq, hc, hn]
      exact ⟨r, rfl⟩
    | some ni =>
      rw [hc, hn] at hm
      simp only [Option.bind_some] at hm
      cases hx : AL.lookup (getN st ni).chans ci with
      | some cell =>
        rw [hx] at hm
        simp only [Go.Tracker.step, Spec.Tracker.step, r.2.has_chans, r.2.has_nicks, has_eq, hc, hn, hx, hm]
        exact ⟨r, rfl⟩
      | none =>
        rw [hx] at hm
        have h2 := (r.1.on_eq (r.1.liveC hc) (r.1.liveN hn)).symm.trans hx
        rw [step_associate hc hn ((has_false_iff _ _).2 hx) ((has_false_iff _ _).2 h2)]
        simp only [Spec.Tracker.step, r.2.has_chans, r.2.has_nicks, has_eq, hc, hn, hm]
        exact ⟨R_link r hc hn, rfl⟩

end Spec.Tracker
