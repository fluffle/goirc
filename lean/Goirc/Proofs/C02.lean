import Goirc.Proofs.Line
import Goirc.Model.LineGo
/-!
# C02: the literal transcription of line.go, in which indexing can panic, computes the readable model

`Go.LineGo` writes every index and slice expression of the Go source as an operation that can fail (`idx`, `slice`, `sliceFrom`).
Function by function the transcription returns `.ok` of the model's function: the accessors, the tag loop, `parseUserHost`, then
the stages of the parser, each from the one inside it, up to `parseLineGo_eq`. The bounds an index needs are what the search that
produced it says (`indexByte_cons_bounds`, `indexByte_lt`).
-/
namespace Go.LineGo

theorem idx_of_lt {α : Type} [Inhabited α] (s : List α) (i : Nat) (h : i < s.length) :
    idx s i = .ok s[i] := by
  simp [idx, h]

@[simp] theorem idx_cons_zero {α : Type} [Inhabited α] (a : α) (s : List α) : idx (a :: s) 0 = .ok a := by
  simp [idx]

@[simp] theorem idx_cons_one {α : Type} [Inhabited α] (a b : α) (s : List α) : idx (a :: b :: s) 1 = .ok b := by
  simp [idx]

theorem slice_of_le {α : Type} (s : List α) (i j : Nat) (h1 : i ≤ j) (h2 : j ≤ s.length) :
    slice s i j = .ok ((s.take j).drop i) := by
  simp [slice, h1, h2]

theorem sliceFrom_of_le {α : Type} (s : List α) (i : Nat) (h : i ≤ s.length) :
    sliceFrom s i = .ok (s.drop i) := by
  simp [sliceFrom, h]

theorem textGo_eq (l : Line) : textGo l = .ok l.text := by
  unfold textGo Line.text
  split
  · rename_i h
    rw [idx_of_lt _ _ (by omega)]
    rw [List.getLast?_eq_getElem?]
    simp [List.getElem?_eq_getElem (show l.args.length - 1 < l.args.length by omega)]
  · rename_i h
    have : l.args = [] := by
      cases hl : l.args with
      | nil => rfl
      | cons a b => simp [hl] at h
    simp [this]

theorem publicGo_eq (l : Line) : publicGo l = .ok l.public := by
  unfold publicGo Line.public
  split
  · rcases hl : l.args with _ | ⟨a, rest⟩
    · simp
    · cases a with
      | nil => simp <;> rfl
      | cons b a' => simp <;> rfl
  · split
    · rcases hl : l.args with _ | ⟨a0, rest⟩
      · simp
      · rcases rest with _ | ⟨a, rest'⟩
        · simp
        · cases a with
          | nil => simp <;> rfl
          | cons b a' => simp <;> rfl
    · rfl

theorem targetGo_eq (l : Line) : targetGo l = .ok l.target := by
  unfold targetGo Line.target
  rw [publicGo_eq]
  split
  · cases hp : l.public
    · simp <;> rfl
    · rcases hl : l.args with _ | ⟨a, rest⟩
      · simp <;> rfl
      · simp <;> rfl
  · rename_i h1
    split
    · rename_i h2
      cases hp : l.public
      · simp <;> rfl
      · have : ∃ a0 b a' rest, l.args = a0 :: (b :: a') :: rest := by
          unfold Line.public at hp
          rw [if_neg h1, if_pos h2] at hp
          split at hp
          · rename_i a0 b a' rest hl
            exact ⟨_, _, _, _, hl⟩
          · simp at hp
        obtain ⟨a0, b, a', rest, hl⟩ := this
        simp [hl] <;> rfl
    · rcases hl : l.args with _ | ⟨a, rest⟩
      · simp <;> rfl
      · simp <;> rfl

@[simp] theorem ok_bind {α β : Type} (a : α) (f : α → M β) : (Except.ok a : M α) >>= f = f a := rfl
@[simp] theorem ok_map {α β : Type} (a : α) (f : α → β) : f <$> (Except.ok a : M α) = Except.ok (f a) := rfl
@[simp] theorem pure_eq_ok {α : Type} (a : α) : (pure a : M α) = Except.ok a := rfl

theorem addTagGo_eq (m : List (Bytes × Bytes)) (tag : Bytes) : addTagGo m tag = .ok (addTag m tag) := by
  unfold addTagGo addTag splitN2
  split
  · rfl
  · rcases hc : cut (unescapeTag tag) [61] with ⟨a, _ | b⟩
    · simp
    · simp

theorem parseTagsGo_eq (r : Bytes) : parseTagsGo r = .ok (parseTags r) := by
  have : addTagGo = fun m tag => pure (addTag m tag) := funext fun m => funext (addTagGo_eq m)
  rw [parseTagsGo, this, List.foldlM_pure]
  rfl

theorem parseUserHostGo_eq (u : Bytes) : parseUserHostGo u = .ok (parseUserHost u) := by
  unfold parseUserHostGo parseUserHost
  simp only
  rcases hn : indexByte (trimSpace u) 33 with _ | nidx
  · rfl
  rcases hu : indexByte (trimSpace u) 64 with _ | uidx
  · rfl
  simp only
  split
  · rfl
  · rename_i hlt
    have hne := indexByte_ne _ _ _ _ _ hn hu (by decide)
    have hu1 := indexByte_lt _ _ _ hu
    rw [slice_of_le _ _ _ (by omega) (by omega), slice_of_le _ _ _ (by omega) (by omega),
      sliceFrom_of_le _ _ (by omega)]
    simp

theorem ctcpGo_eq (ext : UnicodeExt) (line : Line) : ctcpGo ext line = .ok (ctcpRewrite ext line) := by
  obtain ⟨tags, nick, ident, host, src, cmd, raw, args⟩ := line
  unfold ctcpGo ctcpRewrite ctcpCmdArgs
  by_cases h1 : (cmd == PRIVMSG || cmd == NOTICE) = true
  · simp only [h1]
    rcases args with _ | ⟨a0, _ | ⟨a1, more⟩⟩
    · simp
    · simp
    · simp only [List.length_cons, idx_cons_one, ok_bind]
      by_cases h2 : a1.length > 2
      · by_cases h3 : hasPrefix a1 [1] = true
        · by_cases h4 : hasSuffix a1 [1] = true
          · simp only [h2, h3, h4, splitN2]
            obtain ⟨t0, o, hc⟩ : ∃ t0 o, cut (trimByte 1 a1) [32] = (t0, o) := ⟨_, _, rfl⟩
            rcases o with _ | t
            · simp [hc]
              split <;> simp
            · simp [hc, setIdx]
              split <;> simp
          · simp [h2, h3, h4]
        · simp [h2, h3]
      · simp [h2]
  · simp [h1]

theorem restGo_eq (ext : UnicodeExt) (line : Line) (s : Bytes) :
    restGo ext line s = .ok (parseRest ext line s) := by
  unfold restGo parseRest restArgs splitN2
  obtain ⟨a, o, hc⟩ : ∃ a o, cut s [32, 58] = (a, o) := ⟨_, _, rfl⟩
  rcases o with _ | t
  · simp only [hc, idx_cons_zero, ok_bind, List.length_cons, List.length_nil]
    generalize fields a = args
    rcases args with _ | ⟨c, _ | ⟨d, rest⟩⟩
    · rfl
    · simp [ctcpGo_eq]
    · simp [ctcpGo_eq, sliceFrom]
  · simp only [hc, idx_cons_zero, ok_bind, List.length_cons, List.length_nil, idx_cons_one]
    generalize fields a ++ [t] = args
    rcases args with _ | ⟨c, _ | ⟨d, rest⟩⟩
    · rfl
    · simp [ctcpGo_eq]
    · simp [ctcpGo_eq, sliceFrom]

theorem sourceGo_eq (ext : UnicodeExt) (line : Line) (s : Bytes) :
    sourceGo ext line s = .ok (parseSource ext line s) := by
  rcases s with _ | ⟨x, s⟩
  · rfl
  rw [parseSource_cons, sourceGo]
  by_cases hx : (x == 58) = true
  · simp only [List.isEmpty_cons, idx_cons_zero, ok_bind, hx, if_true, Bool.false_eq_true, if_false]
    rcases hi : indexByte (x :: s) 32 with _ | i
    · rfl
    · obtain ⟨h1, h2⟩ := indexByte_cons_bounds x 32 s i (by rintro rfl; simp at hx) hi
      simp only [slice_of_le _ _ _ h1 (Nat.le_of_lt h2), sliceFrom_of_le _ _ h2, parseUserHostGo_eq, restGo_eq,
        withSource, ok_bind]
      rcases parseUserHost (List.drop 1 (List.take i (x :: s))) with _ | ⟨n, id, h⟩ <;> rfl
  · simp only [List.isEmpty_cons, idx_cons_zero, ok_bind, hx, Bool.false_eq_true, if_false, restGo_eq]

theorem parseLineGo_eq (ext : UnicodeExt) (s : Bytes) :
    parseLineGo ext s = .ok (parseLine ext s) := by
  rcases s with _ | ⟨x, s⟩
  · rfl
  rw [parseLine_cons, parseLineGo]
  by_cases hx : (x == 64) = true
  · simp only [List.isEmpty_cons, idx_cons_zero, ok_bind, hx, if_true, Bool.false_eq_true, if_false]
    rcases hi : indexByte (x :: s) 32 with _ | i
    · rfl
    · obtain ⟨h1, h2⟩ := indexByte_cons_bounds x 32 s i (by rintro rfl; simp at hx) hi
      simp only [slice_of_le _ _ _ h1 (Nat.le_of_lt h2), sliceFrom_of_le _ _ h2, parseTagsGo_eq, sourceGo_eq, ok_bind]
  · simp only [List.isEmpty_cons, idx_cons_zero, ok_bind, hx, Bool.false_eq_true, if_false, sourceGo_eq]

end Go.LineGo
