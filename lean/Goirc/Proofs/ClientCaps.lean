import Goirc.Model.Client
import Goirc.Proofs.Commands
import Goirc.Proofs.AList
/-!
# Capability sets of the client model

`capAdd` is a fold of `capStep` (one name: `-name` switches it off, anything else on); what `capHas` and the keys of the
result are; `sort.Strings` permutes; and the loop of `handleCapAck` in closed form (`capAckLoop_eq`).
-/
namespace Go.Client

theorem capHas_insert (m : List (Bytes × Bool)) (k k' : Bytes) (v : Bool) :
    capHas (AL.insert m k v) k' = if k = k' then v else capHas m k' :=
  AL.lookup_insert_getD m k v k' false

def capStep (m : List (Bytes × Bool)) (cap : Bytes) : List (Bytes × Bool) :=
  match cap with
  | 45 :: name => AL.insert m name false
  | _ => AL.insert m cap true

theorem capAdd_cons (m : List (Bytes × Bool)) (cap : Bytes) (rest : List Bytes) :
    capAdd m (cap :: rest) = capAdd (capStep m cap) rest := by
  unfold capStep
  conv => lhs; unfold capAdd
  split
  · rfl
  · rename_i hno
    split
    · rename_i name; exact absurd rfl (hno name)
    · rfl

theorem capStep_nodup (m : List (Bytes × Bool)) (cap : Bytes) (h : (AL.keys m).Nodup) : (AL.keys (capStep m cap)).Nodup := by
  unfold capStep
  split <;> exact AL.nodup_insert h _ _

theorem capStep_plain (m : List (Bytes × Bool)) (n : Bytes) (h : n.head? ≠ some 45) : capStep m n = AL.insert m n true := by
  unfold capStep
  split
  · exact absurd rfl h
  · rfl

theorem capAdd_cons_plain (m : List (Bytes × Bool)) (n : Bytes) (rest : List Bytes) (h : n.head? ≠ some 45) :
    capAdd m (n :: rest) = capAdd (AL.insert m n true) rest := by
  rw [capAdd_cons, capStep_plain m n h]

theorem capHas_capStep (m : List (Bytes × Bool)) (a cap : Bytes) (hc : cap.head? ≠ some 45) :
    capHas (capStep m a) cap = if a == cap then true else if a == 45 :: cap then false else capHas m cap := by
  unfold capStep
  split
  · rename_i name
    have e : ((45 :: name : Bytes) == cap) = false := beq_false_of_ne fun e => hc (e ▸ rfl)
    simp [capHas_insert, e]
  · rename_i hno
    have e : (a == 45 :: cap) = false := beq_false_of_ne fun e => hno cap e
    simp [capHas_insert, e]

theorem capHas_capAdd (m : List (Bytes × Bool)) (acks : List Bytes) (cap : Bytes) (hc : cap.head? ≠ some 45) :
    capHas (capAdd m acks) cap =
      acks.foldl (fun h a => if a == cap then true else if a == 45 :: cap then false else h) (capHas m cap) := by
  induction acks generalizing m with
  | nil => rfl
  | cons a acks ih => rw [capAdd_cons, ih, capHas_capStep m a cap hc]; rfl

def plain (names : List Bytes) : Prop := ∀ n ∈ names, n.head? ≠ some 45

theorem keys_capAdd_mem (m : List (Bytes × Bool)) (names : List Bytes) (hp : plain names) (k : Bytes) :
    k ∈ AL.keys (capAdd m names) ↔ k ∈ AL.keys m ∨ k ∈ names := by
  induction names generalizing m with
  | nil => simp [capAdd]
  | cons n rest ih =>
    rw [capAdd_cons_plain _ _ _ (hp n (by simp)), ih _ (fun x hx => hp x (by simp [hx])), AL.mem_keys_insert]
    simp only [List.mem_cons]
    constructor
    · rintro ((h | h) | h) <;> simp [h]
    · rintro (h | h | h) <;> simp [h]

theorem keys_capAdd_nodup (m : List (Bytes × Bool)) (names : List Bytes) (h : (AL.keys m).Nodup) :
    (AL.keys (capAdd m names)).Nodup := by
  induction names generalizing m with
  | nil => exact h
  | cons n rest ih => rw [capAdd_cons]; exact ih _ (capStep_nodup m n h)

theorem capHas_capAdd_plain (m : List (Bytes × Bool)) (names : List Bytes) (hp : plain names) (k : Bytes) :
    capHas (capAdd m names) k = (names.contains k || capHas m k) := by
  induction names generalizing m with
  | nil => simp [capAdd]
  | cons n rest ih =>
    rw [capAdd_cons_plain _ _ _ (hp n (by simp)), ih _ (fun x hx => hp x (by simp [hx])), capHas_insert]
    by_cases h : n = k
    · subst h; simp
    · have : ¬ k = n := fun e => h e.symm
      simp [h, this]

theorem insertSorted_perm (x : Bytes) (l : List Bytes) : (insertSorted x l).Perm (x :: l) := by
  induction l with
  | nil => simp [insertSorted]
  | cons y ys ih =>
    simp only [insertSorted]
    split
    · exact List.Perm.refl _
    · exact ((List.Perm.cons y ih).trans (List.Perm.swap x y ys))

theorem sortBytes_perm (l : List Bytes) : (sortBytes l).Perm l := by
  induction l with
  | nil => exact List.Perm.refl _
  | cons x l ih =>
    show (insertSorted x (sortBytes l)).Perm (x :: l)
    exact (insertSorted_perm x _).trans (List.Perm.cons x ih)

theorem emit_saslStart (c : Client) (s : Sasl) :
    emit c (.authenticate (saslStart s).1) = [lit "AUTHENTICATE " ++ (saslStart s).1] := by
  apply exec_authenticate
  cases s
  · exact (by decide +kernel : Clean (lit "PLAIN"))
  · exact (by decide +kernel : Clean (lit "EXTERNAL"))

theorem capAckLoop_eq (c : Client) (caps out : List Bytes) (got : Bool) :
    capAckLoop c caps out got =
      match c.cfg.sasl with
      | none => ({ c with curr := capAdd c.curr caps }, out, got)
      | some s =>
        ({ c with curr := capAdd c.curr caps,
                  saslRemaining := if caps.contains saslCap then some (saslStart s).2 else c.saslRemaining },
         out ++ List.replicate (caps.count saslCap) (lit "AUTHENTICATE " ++ (saslStart s).1),
         got || caps.contains saslCap) := by
  have step : ∀ m cap, capAdd (capAdd m [cap]) = capAdd (capStep m cap) := fun m cap => by rw [capAdd_cons]; rfl
  induction caps generalizing c out got with
  | nil => cases c.cfg.sasl <;> simp [capAckLoop, capAdd]
  | cons cap rest ih =>
    rw [capAckLoop]
    cases hs : c.cfg.sasl with
    | none => simp only []; rw [ih]; simp only [hs, step, ← capAdd_cons]
    | some s =>
      simp only []
      by_cases hc : cap = saslCap
      · subst hc
        simp only [BEq.rfl, if_true]
        rw [ih, emit_saslStart]
        simp [hs, step, ← capAdd_cons, List.replicate_succ]
      · have hc' : (cap == saslCap) = false := beq_false_of_ne hc
        simp only [hc', Bool.false_eq_true, if_false]
        rw [ih]
        simp [hs, step, ← capAdd_cons, hc, Ne.symm hc]

end Go.Client
