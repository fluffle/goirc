import Goirc.Go.Bytes
/-!
# `hasPrefix` and `beforeByte`; closed facts about one byte

`hasPrefix` and `beforeByte` are core list functions (`List.isPrefixOf`, `List.takeWhile`); the lemmas the proofs use follow from
core's. Last, `UInt8.forall_of_lt`, by which a closed fact about an arbitrary byte is settled by evaluating it on 0 .. 255.
-/
namespace Go

@[simp] theorem hasPrefix_nil (s : Bytes) : hasPrefix s [] = true := by cases s <;> rfl

theorem hasPrefix_eq_isPrefixOf (s p : Bytes) : hasPrefix s p = p.isPrefixOf s := by
  induction p generalizing s with
  | nil => cases s <;> rfl
  | cons y p ih => cases s with
    | nil => rfl
    | cons x s => simp only [hasPrefix, List.isPrefixOf, ih, Bool.beq_comm (a := x)]

theorem hasPrefix_iff (s p : Bytes) : hasPrefix s p = true ↔ ∃ t, s = p ++ t := by
  rw [hasPrefix_eq_isPrefixOf, List.isPrefixOf_iff_prefix]
  exact ⟨fun ⟨t, h⟩ => ⟨t, h.symm⟩, fun ⟨t, h⟩ => ⟨t, h.symm⟩⟩

theorem hasPrefix_append_left (p s : Bytes) : hasPrefix (p ++ s) p = true :=
  (hasPrefix_iff _ _).2 ⟨s, rfl⟩

theorem beforeByte_eq_takeWhile (c : UInt8) (s : Bytes) : beforeByte c s = s.takeWhile (· != c) := by
  induction s with
  | nil => rfl
  | cons x s ih => rw [beforeByte, List.takeWhile_cons, ih, bne]; cases x == c <;> rfl

theorem beforeByte_not_mem (c : UInt8) (s : Bytes) : c ∉ beforeByte c s := fun h => by
  have := List.all_eq_true.1 (List.all_takeWhile (p := (· != c)) (l := s)) c (beforeByte_eq_takeWhile c s ▸ h)
  simp at this

theorem beforeByte_subset (c : UInt8) (s : Bytes) : ∀ x ∈ beforeByte c s, x ∈ s := by
  rw [beforeByte_eq_takeWhile]; exact fun x hx => (List.takeWhile_sublist _).subset hx

theorem beforeByte_append_of_not_mem (c : UInt8) (p s : Bytes) (h : c ∉ p) :
    beforeByte c (p ++ s) = p ++ beforeByte c s := by
  simp only [beforeByte_eq_takeWhile]
  exact List.takeWhile_append_of_pos fun a ha => by simpa using fun e => h (by rwa [← e])

theorem beforeByte_spec (c : UInt8) (s : Bytes) :
    ∃ t, s = beforeByte c s ++ t ∧ (t = [] ∨ ∃ t', t = c :: t') := by
  refine ⟨s.dropWhile (· != c), by rw [beforeByte_eq_takeWhile, List.takeWhile_append_dropWhile], ?_⟩
  have := List.head?_dropWhile_not (· != c) s
  cases h : s.dropWhile (· != c) with
  | nil => exact Or.inl rfl
  | cons x t => rw [h] at this; exact Or.inr ⟨t, by simpa using this⟩

end Go

theorem UInt8.forall_of_lt {p : UInt8 → Prop} (h : ∀ n, n < 256 → p (UInt8.ofNat n)) (c : UInt8) : p c := by
  have := h c.toNat c.toNat_lt
  rwa [UInt8.ofNat_toNat] at this
