import Goirc.Spec.Caps
import Goirc.Proofs.ClientFrame
import Goirc.Proofs.ClientCaps
import Goirc.Proofs.Strings
/-!
# C19: capability negotiation and SASL

That base64 output and the `CAP END` line are clean; which handlers can set the pending SASL response; the words of a REQ
line, which `splitArgs` keeps when the names are good (`GoodName`, `group_ok`); and what `negotiate` requests and sends
(`req_keys`, `negotiate_out`, `lsOut_ok`).
-/
namespace Go.Client
open Go Go.Tracker Spec.Caps

theorem emit_capEnd (c : Client) : emit c (.cap CAP_END []) = [CAPEND] := by
  show [cutNewLines (V.CAP ++ [SP] ++ CAP_END)] = [CAPEND]
  decide +kernel

theorem b64char_clean (n : Nat) : b64char n ≠ CR ∧ b64char n ≠ LF := by
  by_cases h : n < 62
  · have : ∀ n, n < 62 → (b64char n ≠ CR ∧ b64char n ≠ LF) := by decide
    exact this n h
  · have h1 : ¬ n < 26 := by omega
    have h2 : ¬ n < 52 := by omega
    simp only [b64char, h1, h2, h, if_false]
    split <;> decide

theorem b64encode_clean (d : Bytes) : Clean (b64encode d) := by
  have h1 := fun n => (b64char_clean n).1.symm
  have h2 := fun n => (b64char_clean n).2.symm
  have e1 : CR ≠ 61 := by decide
  have e2 : LF ≠ 61 := by decide
  fun_induction b64encode d <;> simp_all only [Clean, List.mem_cons, List.not_mem_nil, or_self, not_false_eq_true, and_self]

@[simp] theorem setMeFrom_sasl (c : Client) (n : NickSnap) : (setMeFrom c n).saslRemaining = c.saslRemaining := rfl

theorem authenticate_sasl_none (c : Client) (l : Line) (hr : c.saslRemaining = none) :
    (h_AUTHENTICATE c l).c.saslRemaining = none := by
  unfold h_AUTHENTICATE
  split
  · exact hr
  · split
    · rfl
    · split <;> exact hr

theorem h_CAP_nak (c : Client) (l : Line) (h1 : l.args[1]? = some CAP_NAK) :
    h_CAP c l = { c := c, out := [CAPEND] } := by
  have e1 : (CAP_NAK == CAP_LS) = false := by decide +kernel
  have e2 : (CAP_NAK == CAP_ACK) = false := by decide +kernel
  simp [h_CAP, handleCapNak, arg, h1, emit_capEnd, e1, e2]

/-- only `h_CAP` can set the pending response: `h_AUTHENTICATE` clears it, the other handlers ignore it -/
theorem intHandler_sasl_none {ev : Bytes} {h : Client → Line → HR} (hh : intHandler ev = some h)
    (hev : ev ≠ lit "cap") (c : Client) (l : Line) (hr : c.saslRemaining = none) :
    (h c l).c.saslRemaining = none :=
  intHandler_cases_ignores (P := fun ev h => ev ≠ lit "cap" → (h c l).c.saslRemaining = none)
    (fun _ => (h_REGISTER_c c l).symm ▸ hr) (fun h => absurd rfl h) (fun _ => authenticate_sasl_none c l hr)
    (fun _ _ H _ => (H.keeps c l).trans hr) hh hev

theorem dispTail_sasl (ev : Bytes) (l : Line) (r1 : HR) :
    (dispTail ev l r1).c.saslRemaining = r1.c.saslRemaining := by
  unfold dispTail
  split
  · rename_i h _ hs; exact (stHandler_ignores hs).keeps _ l
  · rfl

theorem nodup_iff (l : List Bytes) : nodup l = true ↔ l.Nodup := by
  induction l with
  | nil => simp [nodup]
  | cons x xs ih => simp [nodup, ih]

theorem subset_iff (a b : List Bytes) : subset a b = true ↔ ∀ x ∈ a, x ∈ b := by
  simp [subset]

def words (l : Bytes) : List Bytes := (splitByte 32 [] l).filter (· != [])

/-- what a name must satisfy to survive `splitArgs`, `cutNewLines` and `reqWords` -/
structure GoodName (n : Bytes) : Prop where
  ne : n ≠ []
  nosp : (32 : UInt8) ∉ n
  clean : Clean n
  short : n.length ≤ 200

theorem group_ok {g : List Bytes} (hg : ArgGroup 441 g) (hn : ∀ n ∈ g, GoodName n) :
    words (join [SP] g) = g ∧ Clean (join [SP] g) ∧ (join [SP] g).length ≤ 440 := by
  obtain ⟨a, g, rfl⟩ := List.exists_cons_of_ne_nil hg.1
  refine ⟨?_, ⟨join_not_mem CR SP _ (fun n h => (hn n h).clean.1) (by decide),
    join_not_mem LF SP _ (fun n h => (hn n h).clean.2) (by decide)⟩, ?_⟩
  · rw [words, show SP = 32 from rfl, splitByte_join 32 a g fun n h => (hn n h).nosp]
    exact List.filter_eq_self.2 fun n h => by simpa using (hn n h).ne
  · cases g with
    | nil => exact Nat.le_trans (hn a (by simp)).short (by decide)
    | cons b g => have := hg.2 (by simp); omega

theorem reqWords_map (G : List Bytes) : reqWords (G.map (REQPFX ++ ·)) = some (G.flatMap words) := by
  induction G with
  | nil => rfl
  | cons g G ih =>
    simp only [List.map_cons, reqWords, hasPrefix_append_left, if_true, ih, Option.map_some,
      List.flatMap_cons, List.drop_left]
    rfl

theorem emit_capReq (c : Client) (S : List Bytes) (hS : S ≠ []) :
    emit c (.cap CAP_REQ S) = (splitArgs S 441).map (fun a => cutNewLines (REQPFX ++ a)) := by
  cases S with
  | nil => exact absurd rfl hS
  | cons x xs =>
    -- `show` and `rfl` evaluate the literals: the prefix is `REQPFX`, which leaves 450 - 9 bytes for a group
    show List.map cutNewLines (List.map _ (splitArgs (x :: xs) 441)) = _
    rw [List.map_map]
    rfl

theorem requestCaps_keys_mem (c : Client) (hp : plain c.cfg.caps) (k : Bytes) :
    k ∈ AL.keys (requestCaps c) ↔ k ∈ wanted c.cfg.caps c.cfg.sasl.isSome := by
  unfold requestCaps wanted
  rw [keys_capAdd_mem _ _ hp]
  cases c.cfg.sasl.isSome
  · simp [AL.keys]
  · have : capAdd [] [saslCap] = [(saslCap, true)] := rfl
    simp [this, AL.keys]

theorem requestCaps_keys_nodup (c : Client) : (AL.keys (requestCaps c)).Nodup := by
  unfold requestCaps
  apply keys_capAdd_nodup
  split
  · exact keys_capAdd_nodup [] _ List.nodup_nil
  · exact List.nodup_nil

theorem req_keys (c : Client) (adv : List Bytes) (hp : plain c.cfg.caps) (ha : plain adv) :
    let K := AL.keys (capIntersect (requestCaps c) (capAdd [] adv))
    K.Nodup ∧ ∀ k, k ∈ K ↔ k ∈ (wanted c.cfg.caps c.cfg.sasl.isSome).filter (adv.contains ·) := by
  have hf : (fun p : Bytes × Bool => capHas (capAdd [] adv) p.1) = fun p => adv.contains p.1 := by
    funext p
    rw [capHas_capAdd_plain _ _ ha]
    simp [capHas, AL.lookup]
  simp only [capIntersect, hf]
  rw [AL.keys_filter_key (requestCaps c) (adv.contains ·)]
  refine ⟨(requestCaps_keys_nodup c).sublist List.filter_sublist, ?_⟩
  intro k
  simp only [List.mem_filter, requestCaps_keys_mem c hp]

def lsOut (K : List Bytes) : List Bytes :=
  if K = [] then [CAPEND] else (splitArgs (sortBytes K) 441).map (fun a => cutNewLines (REQPFX ++ a))

theorem negotiate_out (c : Client) (adv : List Bytes) (hfresh : c.supported = []) :
    (negotiate c adv).out = lsOut (AL.keys (capIntersect (requestCaps c) (capAdd [] adv))) := by
  unfold negotiate lsOut
  simp only [hfresh]
  generalize hc1 : ({ c with supported := capAdd [] adv } : Client) = c1
  have e : requestCaps c1 = requestCaps c := by subst hc1; rfl
  rw [e]
  generalize capIntersect (requestCaps c) (capAdd [] adv) = req
  cases req with
  | nil => simp [AL.keys]; exact emit_capEnd _
  | cons p req =>
    have h1 : (p :: req).length > 0 := by simp
    have h2 : AL.keys (p :: req) ≠ [] := by simp [AL.keys]
    have h3 : sortBytes (AL.keys (p :: req)) ≠ [] := fun h => h2 (List.nil_perm.1 (h ▸ sortBytes_perm _))
    simp only [h1, h2, if_true, if_false, capSlice]
    exact emit_capReq _ _ h3

theorem lsOut_ok (caps : List Bytes) (sasl : Bool) (adv K : List Bytes) (hnd : K.Nodup)
    (hmem : ∀ k, k ∈ K ↔ k ∈ (wanted caps sasl).filter (adv.contains ·))
    (hgood : ∀ n ∈ K, GoodName n) :
    okAfterLS caps sasl adv (lsOut K) = true := by
  unfold okAfterLS lsOut
  simp only []
  generalize (wanted caps sasl).filter (adv.contains ·) = inter at hmem
  have hKI : K = [] ↔ inter = [] := by simp only [List.eq_nil_iff_forall_not_mem, hmem]
  by_cases hK : K = []
  · simp [hK, hKI.1 hK]
  · have hI : inter.isEmpty = false := by simpa using mt hKI.2 hK
    have hperm := sortBytes_perm K
    generalize sortBytes K = S at hperm
    obtain ⟨gs, hG, hflat, hgs⟩ := splitArgs_eq S 441
    have hok : ∀ g ∈ gs, words (join [SP] g) = g ∧ Clean (join [SP] g) ∧ (join [SP] g).length ≤ 440 :=
      fun g hg => group_ok (hgs g hg) fun n hn =>
        hgood n (hperm.mem_iff.1 (hflat ▸ List.mem_flatten.2 ⟨g, hg, hn⟩))
    have hN : gs ≠ [] := by
      rintro rfl; subst hflat; exact hK (List.Perm.nil_eq hperm).symm
    have hout : (gs.map (join [SP])).map (fun a => cutNewLines (REQPFX ++ a)) = (gs.map (join [SP])).map (REQPFX ++ ·) :=
      List.map_congr_left fun a ha => by
        obtain ⟨g, hg, rfl⟩ := List.mem_map.1 ha
        exact cutNewLines_of_clean (Clean.append (by decide +kernel : Clean REQPFX) (hok g hg).2.1)
    have hW : (gs.map (join [SP])).flatMap words = S := by
      rw [List.flatMap_map, List.flatMap_def, List.map_congr_left (g := id) fun g hg => (hok g hg).1, List.map_id, hflat]
    simp only [hK, if_false, hI, hG, hout, reqWords_map, hW, Bool.false_eq_true]
    simp only [Bool.and_eq_true, Bool.not_eq_true', List.isEmpty_eq_false_iff, ne_eq,
      List.map_eq_nil_iff, sameSet, subset_iff, nodup_iff, List.all_eq_true, List.mem_map,
      decide_eq_true_eq, forall_exists_index, and_imp, forall_apply_eq_imp_iff₂]
    refine ⟨⟨⟨hN, ?_, ?_⟩, hperm.nodup_iff.2 hnd⟩, ?_⟩
    · intro x hx; exact (hmem x).1 (hperm.mem_iff.1 hx)
    · intro x hx; exact hperm.mem_iff.2 ((hmem x).2 hx)
    · intro g hg
      have := (hok g hg).2.2
      have e : REQPFX.length = 9 := rfl
      simp only [List.length_append, e]; omega

end Go.Client
