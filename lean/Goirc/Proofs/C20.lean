import Goirc.Spec.Register
import Goirc.Proofs.Commands
import Goirc.Proofs.ClientFrame
import Goirc.Proofs.ClientCaps
/-!
# C20: no handler but `h_REGISTER` depends on the password; the PASS line is logged masked

Setting `cfg.pass` commutes with every built-in handler except `h_REGISTER` (`h (setPass p c) l = (h c l).map (setPass p)`):
such a handler's output, panic flag and CONNECTED flag do not depend on the password, and the client it leaves differs only
in the password. For the handlers that `Ignores` covers it is an instance of that; `h_CAP` and `h_AUTHENTICATE` are done
here. Last, what `write` logs for the registration lines: the PASS line is masked (`logOf_pass`, `register_log`).
-/
namespace Go.Client
open Go Go.Tracker

def setPass (p : Bytes) (c : Client) : Client := { c with cfg := { c.cfg with pass := p } }

variable (p : Bytes)

@[simp] theorem setPass_st (c : Client) : (setPass p c).st = c.st := rfl
@[simp] theorem setPass_newNick (c : Client) : (setPass p c).newNick = c.newNick := rfl
@[simp] theorem setPass_saslRemaining (c : Client) : (setPass p c).saslRemaining = c.saslRemaining := rfl
@[simp] theorem setPass_meNil (c : Client) : (setPass p c).cfg.meNil = c.cfg.meNil := rfl
@[simp] theorem setPass_meNick (c : Client) : (setPass p c).cfg.meNick = c.cfg.meNick := rfl
@[simp] theorem setPass_meName (c : Client) : (setPass p c).cfg.meName = c.cfg.meName := rfl
@[simp] theorem setPass_sasl (c : Client) : (setPass p c).cfg.sasl = c.cfg.sasl := rfl
@[simp] theorem setPass_version (c : Client) : (setPass p c).cfg.version = c.cfg.version := rfl
@[simp] theorem emit_setPass (c : Client) (cmd : Cmd) : emit (setPass p c) cmd = emit c cmd := rfl
@[simp] theorem setMeFrom_setPass (c : Client) (n : NickSnap) : setMeFrom (setPass p c) n = setPass p (setMeFrom c n) := rfl

/-- `setPass p` is `aside p` with the pending SASL response the client has, and `h` keeps that -/
theorem Ignores.comm_setPass {h : Client → Line → HR} (H : Ignores h) (c : Client) (l : Line) :
    h (setPass p c) l = (h c l).map (setPass p) := by
  have e : aside p c.saslRemaining (h c l).c = setPass p (h c l).c := by
    rw [← H.keeps c l]; rfl
  exact (H p c.saslRemaining c l).trans (congrArg (fun c' => { h c l with c := c' }) e)

theorem negotiate_setPass (c : Client) (adv : List Bytes) :
    negotiate (setPass p c) adv = (negotiate c adv).map (setPass p) := by
  unfold negotiate
  exact HR.map_ite rfl rfl

theorem capAckLoop_setPass (c : Client) (caps out : List Bytes) (got : Bool) :
    capAckLoop (setPass p c) caps out got =
      (setPass p (capAckLoop c caps out got).1, (capAckLoop c caps out got).2.1, (capAckLoop c caps out got).2.2) := by
  rw [capAckLoop_eq, capAckLoop_eq, setPass_sasl]
  cases c.cfg.sasl <;> rfl

theorem handleCapAck_setPass (c : Client) (caps : List Bytes) :
    handleCapAck (setPass p c) caps = (handleCapAck c caps).map (setPass p) := by
  unfold handleCapAck
  rw [capAckLoop_setPass]
  exact HR.map_ite rfl rfl

theorem h_CAP_setPass (c : Client) (l : Line) : h_CAP (setPass p c) l = (h_CAP c l).map (setPass p) := by
  unfold h_CAP
  split
  · rfl
  · exact HR.map_ite (negotiate_setPass p c _) (HR.map_ite (handleCapAck_setPass p c _) (HR.map_ite rfl rfl))

theorem h_AUTHENTICATE_setPass (c : Client) (l : Line) :
    h_AUTHENTICATE (setPass p c) l = (h_AUTHENTICATE c l).map (setPass p) := by
  unfold h_AUTHENTICATE
  simp only [setPass_sasl, setPass_saslRemaining]
  split
  · rfl
  · split
    · rfl
    · split <;> rfl

theorem intHandler_setPass {ev : Bytes} {h : Client → Line → HR} (hh : intHandler ev = some h) (hne : ev ≠ lit "register")
    (c : Client) (l : Line) : h (setPass p c) l = (h c l).map (setPass p) :=
  intHandler_cases_ignores (P := fun ev h => ev ≠ lit "register" → ∀ c l, h (setPass p c) l = (h c l).map (setPass p))
    (fun h => absurd rfl h) (fun _ => h_CAP_setPass p) (fun _ => h_AUTHENTICATE_setPass p)
    (fun _ _ H _ => H.comm_setPass p) hh hne c l

theorem dispHead_setPass (ev : Bytes) (hne : ev ≠ lit "register") (c : Client) (l : Line) :
    dispHead ev (setPass p c) l = (dispHead ev c l).map (setPass p) := by
  unfold dispHead
  cases hi : intHandler ev with
  | none => rfl
  | some h => exact intHandler_setPass p hi hne c l

theorem dispTail_setPass (ev : Bytes) (l : Line) (r1 : HR) :
    dispTail ev l (r1.map (setPass p)) = (dispTail ev l r1).map (setPass p) := by
  unfold dispTail
  have hst' : (r1.map (setPass p)).c.st = r1.c.st := rfl
  rw [hst']
  cases hs : stHandler ev with
  | none => cases r1.c.st <;> rfl
  | some g =>
    cases hst : r1.c.st with
    | none => rfl
    | some s =>
      show ({ c := (g (setPass p r1.c) l).c, out := r1.out ++ (g (setPass p r1.c) l).out,
              panicked := r1.panicked || (g (setPass p r1.c) l).panicked,
              connected := r1.connected || (g (setPass p r1.c) l).connected } : HR) = _
      rw [(stHandler_ignores hs).comm_setPass p]; rfl

theorem dispatchInternal_setPass (c : Client) (l : Line) (hne : toLower c.ext l.cmd ≠ lit "register") :
    dispatchInternal (setPass p c) l = (dispatchInternal c l).map (setPass p) := by
  rw [dispatchInternal_eq, dispatchInternal_eq]
  exact (congrArg _ (dispHead_setPass p _ hne c l)).trans (dispTail_setPass p _ l _)

end Go.Client

namespace Spec.Register
open Go Go.Client

theorem logOf_pass (p : Bytes) : logOf (cutNewLines (lit "PASS " ++ p)) = MASK := by
  have e : lit "PASS " = lit "PASS" ++ [32] := by decide +kernel
  have h := cutNewLines_prefix (p := lit "PASS") (by decide +kernel) ([32] ++ p)
  unfold logOf
  rw [e, List.append_assoc, h]; rfl

theorem register_log (c : Client) (l : Line) (p : Bytes) (hp : p ≠ []) :
    (h_REGISTER (setPass p c) l).out.map logOf =
      ((if c.cfg.capNeg then emit c (.cap CAP_LS []) else []).map logOf ++ [MASK]) ++
        (if c.cfg.meNil then [] else
          (emit c (.nick c.cfg.meNick) ++ emit c (.user c.cfg.meIdent c.cfg.meName)).map logOf) := by
  have hpass : (emit c (.pass p)).map logOf = [MASK] := by
    have e : V.PASS ++ [SP] = lit "PASS " := by decide +kernel
    show [logOf (cutNewLines (V.PASS ++ [SP] ++ p))] = [MASK]
    rw [e, logOf_pass]
  have hcfg : (setPass p c).cfg = { c.cfg with pass := p } := rfl
  rw [h_REGISTER_out]
  simp only [emit_setPass, hcfg, bne_iff_ne, ne_eq, hp, not_false_eq_true, if_true, List.map_append, hpass]
  cases c.cfg.meNil <;> rfl

end Spec.Register

