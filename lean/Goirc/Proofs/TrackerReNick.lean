import Goirc.Proofs.Tracker
import Goirc.Proofs.TrackerSpec
/-! `ReNick`: renaming a nick in `st.nicks`, in the nick object, and in the `lookup` map of every channel it is on, against the
relational rename of the spec (`renKey`, in `TrackerSpec`).  `reNicked` is the model's state after a successful `ReNick`, a fold of
`setC` over the nick's channels; `R_reNick`: registry, channel `lookup` maps and membership keys are all renamed by the same
formula, so what related them before relates them after. -/
namespace Spec.Tracker
open Go.Tracker AL

theorem foldl_setC_frame {β : Type} (π : St → β) (hπ : ∀ s i o, π (setC s i o) = π s) (f : ChanObj → ChanObj)
    (l : List Id) (s : St) : π (l.foldl (fun st c => setC st c (f (getC st c))) s) = π s :=
  List.foldlRecOn (motive := fun t => π t = π s) l _ rfl fun t ht c _ => (hπ t c _).trans ht

theorem getC_foldl_setC (f : ChanObj → ChanObj) (l : List Id) (nd : l.Nodup) (s : St) (d : Id) :
    getC (l.foldl (fun st c => setC st c (f (getC st c))) s) d = if d ∈ l then f (getC s d) else getC s d := by
  induction l generalizing s with
  | nil => rfl
  | cons a l ih =>
    rw [List.nodup_cons] at nd
    rw [List.foldl_cons, ih nd.2, getC_setC]
    by_cases had : a = d
    · subst had; simp [nd.1]
    · have : ¬ d = a := fun e => had e.symm
      simp [had, this]

def renameChan (old neu : Bytes) (i : Id) (co : ChanObj) : ChanObj :=
  { co with lookup := AL.insert (AL.erase co.lookup old) neu i }

def reNicked (st : St) (old neu : Bytes) (i : Id) : St :=
  (AL.keys (getN st i).chans).foldl (fun st c => setC st c (renameChan old neu i (getC st c)))
    { setN st i { getN st i with nick := neu } with nicks := AL.insert (AL.erase st.nicks old) neu i }

theorem reNicked_nicks (st : St) (old neu : Bytes) (i : Id) :
    (reNicked st old neu i).nicks = AL.insert (AL.erase st.nicks old) neu i := by
  unfold reNicked; rw [foldl_setC_frame (·.nicks) fun _ _ _ => rfl]

theorem step_reNick {st : St} {old neu : Bytes} {i : Id} (h1 : AL.lookup st.nicks old = some i)
    (h2 : AL.has st.nicks neu = false) :
    Go.Tracker.step st (.reNick old neu) =
      (reNicked st old neu i, .nick (some (Go.Tracker.nickSnap (reNicked st old neu i) i))) := by
  simp [Go.Tracker.step, h1, h2, reNicked, renameChan]

theorem R_reNick {st : St} {S : S} (r : R st S) {old neu : Bytes} {i : Id}
    (hold : AL.lookup st.nicks old = some i) (hneu : AL.lookup st.nicks neu = none) :
    R (reNicked st old neu i)
      { S with nicks := AL.insert (AL.erase S.nicks old) neu (absN (getN st i)),
               mem := S.mem.map (renKey old neu),
               me := if S.me == old then neu else S.me } := by
  obtain ⟨w, ab⟩ := r
  have li := w.liveN hold
  -- no membership of the spec names `neu`: it is not registered
  have hfree : ∀ e ∈ S.mem, e.1.2 ≠ neu := by
    rintro ⟨⟨cn, a⟩, p⟩ he rfl
    have := lookup_of_mem ab.mem_nodup he
    rw [ab.mem, hneu] at this
    simp only [Option.bind_none, Option.bind_fun_none, reduceCtorEq] at this
  have cold : ∀ d, LiveC st d → AL.lookup (getC st d).lookup old =
      if d ∈ AL.keys (getN st i).chans then some i else none := by
    intro d hd
    rw [w.clookup_eq hd, hold, Option.filter_some]
    simp only [← has_iff_mem_keys, has_congr (w.on_eq hd li)]
  have cneu : ∀ d, LiveC st d → AL.lookup (getC st d).lookup neu = none := by
    intro d hd; rw [w.clookup_eq hd, hneu]; rfl
  generalize hs : reNicked st old neu i = s
  -- the fold over the channels changes channel objects only: everything else is read off the state before it
  have fr : ∀ {β : Type} (π : St → β), (∀ s i o, π (setC s i o) = π s) →
      π s = π { setN st i { getN st i with nick := neu } with nicks := AL.insert (AL.erase st.nicks old) neu i } := by
    intro β π hπ; subst hs; exact foldl_setC_frame π hπ _ _ _
  have e1 : ∀ b, AL.lookup s.nicks b =
      if neu = b then some i else if old = b then none else AL.lookup st.nicks b := by
    intro b; rw [fr (·.nicks) fun _ _ _ => rfl]; simp only [lookup_insert, lookup_erase]
  have e2 : s.chans = st.chans := fr (·.chans) fun _ _ _ => rfl
  have e3 : s.me = st.me := fr (·.me) fun _ _ _ => rfl
  have e4 : s.fresh = st.fresh := fr (·.fresh) fun _ _ _ => rfl
  have e5 : getP s = getP st := funext fun j => fr (getP · j) fun _ _ _ => rfl
  have gN : ∀ j, getN s j = if i = j then { getN st i with nick := neu } else getN st j := fun j =>
    (fr (getN · j) fun _ _ _ => rfl).trans (getN_setN st i _ j)
  have e6 : ∀ j, (getN s j).nick = if i = j then neu else (getN st j).nick := by
    intro j; rw [gN]; split <;> rfl
  have e7 : ∀ j, (getN s j).chans = (getN st j).chans := by
    intro j; rw [gN]; split
    · subst_vars; rfl
    · rfl
  have e8 : ∀ j, absN (getN s j) = absN (getN st j) := by
    intro j; rw [gN]; split
    · subst_vars; rfl
    · rfl
  have gc : ∀ d, getC s d =
      if d ∈ AL.keys (getN st i).chans then renameChan old neu i (getC st d) else getC st d := by
    intro d; subst hs; exact getC_foldl_setC _ _ (w.nk_nodup i li) _ d
  have e9 : ∀ d, (getC s d).name = (getC st d).name := by
    intro d; rw [gc]; split <;> rfl
  have e10 : ∀ d, (getC s d).nicks = (getC st d).nicks := by
    intro d; rw [gc]; split <;> rfl
  have e11 : ∀ d, absC (getC s d) = absC (getC st d) := by
    intro d; rw [gc]; split <;> rfl
  -- e12: every live channel's `lookup` is renamed like the registry (e1), whether or not the nick is on it
  have e12 : ∀ d, LiveC st d → ∀ b, AL.lookup (getC s d).lookup b =
      if neu = b then AL.lookup (getC st d).lookup old else if old = b then none
      else AL.lookup (getC st d).lookup b := by
    intro d hd b
    rw [gc, cold d hd]
    by_cases hk : d ∈ AL.keys (getN st i).chans
    · simp only [hk, if_true]
      exact (lookup_insert _ _ _ _).trans (by rw [lookup_erase])
    · simp only [hk, if_false]
      by_cases h1 : neu = b
      · rw [if_pos h1, ← h1, cneu d hd]
      · rw [if_neg h1]
        by_cases h2 : old = b
        · rw [if_pos h2, ← h2, cold d hd, if_neg hk]
        · rw [if_neg h2]
  clear hs fr gN gc
  have lC : ∀ j, LiveC s j ↔ LiveC st j := by intro j; simp only [LiveC, e2, e9]
  have lN : ∀ j, LiveN s j ↔ LiveN st j := by
    intro j
    simp only [LiveN, e1, e6]
    by_cases hij : i = j
    · subst hij; simp only [if_true]; exact ⟨fun _ => li, fun _ => trivial⟩
    · simp only [hij, if_false]
      by_cases h1 : neu = (getN st j).nick
      · rw [if_pos h1, ← h1, hneu]
        constructor
        · intro h; cases h; exact absurd rfl hij
        · intro h; cases h
      · rw [if_neg h1]
        by_cases h2 : old = (getN st j).nick
        · rw [if_pos h2, ← h2, hold]
          constructor
          · intro h; cases h
          · intro h; cases h; exact absurd rfl hij
        · rw [if_neg h2]
  have nn' : ∀ a j, AL.lookup s.nicks a = some j → (getN s j).nick = a := by
    intro a j h
    rw [e1] at h; rw [e6]
    split at h
    · cases h; subst_vars; simp
    · split at h
      · cases h
      · rename_i h1 h2
        have : i ≠ j := by intro hij; subst hij; exact h2 (w.nick_inj hold h)
        rw [if_neg this]; exact w.nick_name a j h
  constructor
  · constructor
    · exact nn'
    · simp only [e2, e9]; exact w.chan_name
    · simp only [lN, e3]; exact w.me_live
    · simp only [lN, e7]; exact w.nk_nodup
    · simp only [lC, e10]; exact w.ch_nodup
    · simp only [lN, lC, e7, e10]; exact w.nk_ch
    · simp only [lN, lC, e7, e10]; exact w.ch_nk
    · intro d hd
      have hd' := (lC d).1 hd
      refine ch_lookup_of_eq nn' (fun j hj => ?_) fun b => ?_
      · rw [e10] at hj
        obtain ⟨cell, hcell⟩ := (has_true_iff _ _).1 hj
        exact (lN j).2 (w.ch_nk d hd' j cell hcell).1
      · rw [e12 d hd' b, e1, e10, apply_ite (Option.filter _), apply_ite (Option.filter _),
          w.clookup_eq hd', w.clookup_eq hd', hold]
        rfl
    · simp only [lN, e7]; exact w.cell_inj
    · intro a j h
      rw [e1] at h; rw [e4]
      split at h
      · cases h; exact w.fresh_nick old i hold
      · split at h
        · cases h
        · exact w.fresh_nick a j h
    · rw [e2, e4]; exact w.fresh_chan
    · simp only [lN, e7, e4]; exact w.fresh_cell
  · constructor
    · intro a
      show AL.lookup (AL.insert (AL.erase S.nicks old) neu (absN (getN st i))) a = _
      rw [lookup_insert, lookup_erase, e1, apply_ite (Option.map _), apply_ite (Option.map _), ab.nicks]
      simp only [e8]; rfl
    · simp only [e2, e11]; exact ab.chans
    · intro cn a
      show AL.lookup (S.mem.map (renKey old neu)) (cn, a) = _
      rw [lookup_renKey S.mem hfree, ab.mem, ab.mem]
      simp only [e1, e2, e5, e7]
      by_cases h1 : a = neu
      · subst h1; simp only [if_true, hold]
      · by_cases h2 : a = old
        · subst h2; simp only [h1, Ne.symm h1, if_true, if_false, Option.bind_none, Option.bind_fun_none]
        · simp only [h1, h2, Ne.symm h1, Ne.symm h2, if_false]
    · exact nodup_renKey S.mem hfree ab.mem_nodup
    · have hme := ab.me
      simp only [e3, beq_iff_eq]
      by_cases h : S.me = old
      · rw [if_pos h, e1, if_pos rfl]
        rw [h, hold] at hme; exact hme
      · rw [if_neg h, e1]
        have h1 : ¬ neu = S.me := by intro h1; rw [← h1, hneu] at hme; cases hme
        have h2 : ¬ old = S.me := fun h2 => h h2.symm
        rw [if_neg h1, if_neg h2]; exact hme
    · rw [e2]; exact ab.chan_keys

theorem sim_reNick {st : St} {S : S} (r : R st S) (old neu : Bytes) : Sim st S (.reNick old neu) := by
  unfold Sim
  rcases r.2.nick_cases old with ⟨h, hS⟩ | ⟨i, h, hS⟩
  · simp only [Go.Tracker.step, Spec.Tracker.step, h, hS]
    exact ⟨r, trivial⟩
  · cases hh : AL.has st.nicks neu with
    | true =>
      simp only [Go.Tracker.step, Spec.Tracker.step, h, hS, r.2.has_nicks, hh, if_true]
      exact ⟨r, trivial⟩
    | false =>
      rw [step_reNick h hh]
      simp only [Spec.Tracker.step, hS, r.2.has_nicks, hh, Bool.false_eq_true, if_false]
      have r' := R_reNick r h ((has_false_iff _ _).1 hh)
      refine ⟨r', nickSnap_sim r' ?_⟩
      rw [reNicked_nicks]
      exact (lookup_insert _ _ _ _).trans (if_pos rfl)

end Spec.Tracker
