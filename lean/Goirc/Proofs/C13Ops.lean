import Goirc.Proofs.C13Defs
import Goirc.Proofs.TrackerSpec
import Goirc.Proofs.ListLemmas
/-!
# C13: what the relational operations do, as finite maps

Each operation the handlers use (`usedOp`: all but `delChannel` and `wipe`, which no handler calls) is an equation
`sx S op = ..` over record updates and the removals of `TrackerSpec`; `reNick` (`renamed`) and `parseModes` are read through
`lookup`, the latter by an induction over two runs (`parseModes_ind₂`).  Then what every used operation keeps: `WFS`
(`WFS_sx`) and `Eqv` (`Eqv_sx`).  `SafeS` is kept by `Keq` (the same keys, whatever the attributes under them) and by the
four removals; the three operations that add a key are `Ext`.  Last, the view's own rule for PART and KICK
(`Spec.Net.viewLeave`) is `dissociate`.
-/
namespace Proofs.C13
open Go Go.Client Go.Tracker Spec.Tracker Spec.Net

theorem Eqv.refl (A : TS) : Eqv A A := ⟨fun _ => rfl, fun _ => rfl, fun _ => rfl, rfl⟩
theorem Eqv.symm {A B : TS} (h : Eqv A B) : Eqv B A :=
  ⟨fun k => (h.nicks k).symm, fun k => (h.chans k).symm, fun k => (h.mem k).symm, h.me.symm⟩
theorem Eqv.trans {A B C : TS} (h1 : Eqv A B) (h2 : Eqv B C) : Eqv A C :=
  ⟨fun k => (h1.nicks k).trans (h2.nicks k), fun k => (h1.chans k).trans (h2.chans k),
   fun k => (h1.mem k).trans (h2.mem k), h1.me.trans h2.me⟩

theorem Eqv.has_nicks {A B : TS} (h : Eqv A B) (k : Bytes) : AL.has A.nicks k = AL.has B.nicks k := by
  rw [AL.has_eq, AL.has_eq, h.nicks]
theorem Eqv.has_chans {A B : TS} (h : Eqv A B) (k : Bytes) : AL.has A.chans k = AL.has B.chans k := by
  rw [AL.has_eq, AL.has_eq, h.chans]
theorem Eqv.has_mem {A B : TS} (h : Eqv A B) (k : Bytes × Bytes) : AL.has A.mem k = AL.has B.mem k := by
  rw [AL.has_eq, AL.has_eq, h.mem]

theorem Eqv.wfs {A B : TS} (h : Eqv A B) (w : WFS A) : WFS B := by
  intro c u hm
  rw [← h.has_mem] at hm
  rw [← h.has_chans, ← h.has_nicks]
  exact w c u hm

theorem WFS_of_R {st : St} {S : TS} (r : R st S) : WFS S := by
  intro c u h
  obtain ⟨p, hp⟩ := (AL.has_true_iff _ _).1 h
  obtain ⟨ci, ni, _, h1, h2, _⟩ := (r.2.mem_iff c u p).1 hp
  rw [r.2.has_chans, r.2.has_nicks]
  exact ⟨AL.has_of_lookup h1, AL.has_of_lookup h2⟩

theorem lookup_filter_mem (m : List ((Bytes × Bytes) × ChanPrivs)) (p : Bytes × Bytes → Bool) (k : Bytes × Bytes) :
    AL.lookup (m.filter (fun e => p e.1)) k = if p k then AL.lookup m k else none :=
  AL.lookup_filter_key m p k

/-- the state after a `reNick` that succeeds -/
def renamed (S : TS) (old neu : Bytes) (r : SNick) : TS :=
  { S with nicks := AL.insert (AL.erase S.nicks old) neu r
           mem := S.mem.map (renKey old neu)
           me := if S.me == old then neu else S.me }

section
variable (S : TS) (old neu : Bytes) (r : SNick)
theorem renamed_nicks (k : Bytes) :
    AL.lookup (renamed S old neu r).nicks k =
      if neu = k then some r else if old = k then none else AL.lookup S.nicks k := by
  simp only [renamed, AL.lookup_insert, AL.lookup_erase]
theorem renamed_chans : (renamed S old neu r).chans = S.chans := rfl
theorem renamed_me : (renamed S old neu r).me = if S.me = old then neu else S.me := by
  simp only [renamed, beq_iff_eq]
/-- the memberships of `old` are now those of `neu`, which had none: it was unknown -/
theorem renamed_mem (h2 : AL.has S.nicks neu = false) (w : WFS S) (c u : Bytes) :
    AL.lookup (renamed S old neu r).mem (c, u) =
      if u = neu then AL.lookup S.mem (c, old) else if u = old then none else AL.lookup S.mem (c, u) := by
  have hfree : ∀ e ∈ S.mem, e.1.2 ≠ neu := by
    intro e he hn
    obtain ⟨⟨cn, a⟩, p⟩ := e
    simp only at hn; subst hn
    have hk : AL.has S.mem (cn, a) = true := (AL.has_iff_mem_keys _ _).2 (AL.mem_keys_of_mem he)
    rw [(w cn a hk).2] at h2; cases h2
  exact lookup_renKey S.mem hfree c u
end

/-- two runs of `parseModes` that read the same values make the same updates: a relation under which the channel's
entry and its memberships read alike, and which the two kinds of update keep, is kept by the whole run -/
theorem parseModes_ind₂ (Q : TS → TS → Prop) (c : Bytes)
    (hread : ∀ {A B}, Q A B →
      AL.lookup B.chans c = AL.lookup A.chans c ∧ ∀ a, AL.lookup B.mem (c, a) = AL.lookup A.mem (c, a))
    (hc : ∀ {A B} v, Q A B → Q { A with chans := AL.insert A.chans c v } { B with chans := AL.insert B.chans c v })
    (hm : ∀ {A B} a p v, AL.lookup A.mem (c, a) = some p → Q A B →
      Q { A with mem := AL.insert A.mem (c, a) v } { B with mem := AL.insert B.mem (c, a) v })
    {A B : TS} (op : Bool) (ms : Bytes) (args : List Bytes) (h : Q A B) :
    Q (parseModes A c op ms args) (parseModes B c op ms args) := by
  fun_induction parseModes A c op ms args generalizing B
  -- the run on `B` takes the branch the run on `A` took: its tests read what that one read
  all_goals simp +zetaDelta only [parseModes, (hread h).1, (hread h).2, *, if_true, if_false, Bool.false_eq_true]
  -- and each branch goes on with the same state, or after one of the two updates
  all_goals first
    | exact h
    | (rename_i ih; exact ih h)
    | (rename_i ih; exact ih (hc _ h))
    | (rename_i hl ih; exact ih (hm _ _ _ hl h))

theorem parseModes_ind (P : TS → Prop) (c : Bytes)
    (hc : ∀ T v, P T → P { T with chans := AL.insert T.chans c v })
    (hm : ∀ T a p v, AL.lookup T.mem (c, a) = some p → P T → P { T with mem := AL.insert T.mem (c, a) v })
    (S : TS) (op : Bool) (ms : Bytes) (args : List Bytes) (h : P S) : P (parseModes S c op ms args) :=
  (parseModes_ind₂ (fun A B => A = B ∧ P A) c (fun h => by rw [h.1]; exact ⟨rfl, fun _ => rfl⟩)
    (fun v h => ⟨by rw [h.1], hc _ v h.2⟩) (fun a p v hl h => ⟨by rw [h.1], hm _ a p v hl h.2⟩)
    op ms args ⟨rfl, h⟩).2

theorem parseModes_chans_other (S : TS) (c : Bytes) (op : Bool) (ms : Bytes) (args : List Bytes) (k : Bytes) (hk : k ≠ c) :
    AL.lookup (parseModes S c op ms args).chans k = AL.lookup S.chans k :=
  parseModes_ind (fun T => AL.lookup T.chans k = AL.lookup S.chans k) c
    (fun T v h => by simp only [AL.lookup_insert]; rw [if_neg (fun e => hk e.symm)]; exact h)
    (fun _ _ _ _ _ h => h) S op ms args rfl
theorem parseModes_mem_other (S : TS) (c : Bytes) (op : Bool) (ms : Bytes) (args : List Bytes) (k u : Bytes) (hk : k ≠ c) :
    AL.lookup (parseModes S c op ms args).mem (k, u) = AL.lookup S.mem (k, u) :=
  parseModes_ind (fun T => AL.lookup T.mem (k, u) = AL.lookup S.mem (k, u)) c
    (fun _ _ h => h)
    (fun T a p v _ h => by
      simp only [AL.lookup_insert]
      rw [if_neg (by simp only [Prod.mk.injEq]; exact fun e => hk e.1.symm)]; exact h)
    S op ms args rfl

def usedOp : Op → Bool
  | .delChannel _ => false
  | .wipe => false
  | _ => true

theorem sx_getNick (S : TS) (n : Bytes) : sx S (.getNick n) = S := by
  simp only [sx, Spec.Tracker.step]; split <;> rfl
theorem sx_getChannel (S : TS) (c : Bytes) : sx S (.getChannel c) = S := by
  simp only [sx, Spec.Tracker.step]; split <;> rfl
theorem sx_me (S : TS) : sx S .me = S := rfl
theorem sx_isOn (S : TS) (c n : Bytes) : sx S (.isOn c n) = S := by
  simp only [sx, Spec.Tracker.step]
  split
  · split <;> rfl
  · rfl

theorem sx_newNick (S : TS) (n : Bytes) :
    sx S (.newNick n) = if n.isEmpty || AL.has S.nicks n then S else { S with nicks := AL.insert S.nicks n {} } := by
  simp only [sx, Spec.Tracker.step]; split <;> rfl
theorem sx_newChannel (S : TS) (c : Bytes) :
    sx S (.newChannel c) = if c.isEmpty || AL.has S.chans c then S else { S with chans := AL.insert S.chans c {} } := by
  simp only [sx, Spec.Tracker.step]; split <;> rfl
theorem sx_nickInfo (S : TS) (n i h name : Bytes) :
    sx S (.nickInfo n i h name) = match AL.lookup S.nicks n with
      | none => S
      | some r => { S with nicks := AL.insert S.nicks n { r with ident := i, host := h, name := name } } := by
  simp only [sx, Spec.Tracker.step]; cases AL.lookup S.nicks n <;> rfl
theorem sx_nickModes (S : TS) (n m : Bytes) :
    sx S (.nickModes n m) = match AL.lookup S.nicks n with
      | none => S
      | some r => { S with nicks := AL.insert S.nicks n { r with modes := nickParseModes r.modes false m } } := by
  simp only [sx, Spec.Tracker.step]; cases AL.lookup S.nicks n <;> rfl
theorem sx_topic (S : TS) (c t : Bytes) :
    sx S (.topic c t) = match AL.lookup S.chans c with
      | none => S
      | some r => { S with chans := AL.insert S.chans c { r with topic := t } } := by
  simp only [sx, Spec.Tracker.step]; cases AL.lookup S.chans c <;> rfl
theorem sx_channelModes (S : TS) (c m : Bytes) (args : List Bytes) :
    sx S (.channelModes c m args) = if AL.has S.chans c then parseModes S c false m args else S := by
  simp only [sx, Spec.Tracker.step]; split <;> rfl
theorem sx_associate (S : TS) (c n : Bytes) :
    sx S (.associate c n) =
      if AL.has S.chans c && AL.has S.nicks n && !AL.has S.mem (c, n) then { S with mem := AL.insert S.mem (c, n) {} }
      else S := by
  simp only [sx, Spec.Tracker.step]; split <;> rfl
theorem sx_delNick (S : TS) (n : Bytes) :
    sx S (.delNick n) = if AL.has S.nicks n && n != S.me then dropNick S n else S := by
  cases hl : AL.lookup S.nicks n with
  | none => simp only [sx, Spec.Tracker.step, AL.has_eq, hl]; rfl
  | some r =>
    by_cases hn : n = S.me
    · subst hn; simp [sx, Spec.Tracker.step, AL.has_eq, hl]
    · simp [sx, Spec.Tracker.step, AL.has_eq, hl, hn]

theorem sx_reNick (S : TS) (old neu : Bytes) :
    sx S (.reNick old neu) = match AL.lookup S.nicks old with
      | none => S
      | some r => if AL.has S.nicks neu then S else renamed S old neu r := by
  simp only [sx, Spec.Tracker.step]
  cases AL.lookup S.nicks old with
  | none => rfl
  | some r => simp only; split <;> rfl
theorem sx_dissociate (S : TS) (c n : Bytes) :
    sx S (.dissociate c n) =
      if AL.has S.chans c && AL.has S.nicks n && AL.has S.mem (c, n) then
        if n == S.me then dropChan S c else sdissoc1 S c n
      else S := congrArg Prod.fst (step_dissociate S c n)

structure Keq (S T : TS) : Prop where
  me : T.me = S.me
  nicks : AL.keys T.nicks = AL.keys S.nicks
  chans : AL.keys T.chans = AL.keys S.chans
  mem : AL.keys T.mem = AL.keys S.mem

theorem Keq.refl (S : TS) : Keq S S := ⟨rfl, rfl, rfl, rfl⟩

theorem Keq.trans {S T U : TS} (a : Keq S T) (b : Keq T U) : Keq S U :=
  ⟨b.me.trans a.me, b.nicks.trans a.nicks, b.chans.trans a.chans, b.mem.trans a.mem⟩

theorem Keq_foldl {α : Type} (f : TS → α → TS) (hf : ∀ v a, Keq v (f v a)) (l : List α) (v : TS) : Keq v (l.foldl f v) := by
  induction l generalizing v with
  | nil => exact Keq.refl v
  | cons a l ih => exact (hf v a).trans (ih _)

theorem Keq.has_nicks {S T : TS} (k : Keq S T) (u : Bytes) : AL.has T.nicks u = AL.has S.nicks u :=
  AL.has_of_keys_eq k.nicks u
theorem Keq.has_chans {S T : TS} (k : Keq S T) (c : Bytes) : AL.has T.chans c = AL.has S.chans c :=
  AL.has_of_keys_eq k.chans c
theorem Keq.has_mem {S T : TS} (k : Keq S T) (x : Bytes × Bytes) : AL.has T.mem x = AL.has S.mem x :=
  AL.has_of_keys_eq k.mem x

theorem Keq.set_nick (S : TS) (u : Bytes) (x : SNick) (h : AL.has S.nicks u = true) :
    Keq S { S with nicks := AL.insert S.nicks u x } := ⟨rfl, AL.keys_insert_of_has h x, rfl, rfl⟩
theorem Keq.set_chan (S : TS) (c : Bytes) (x : SChan) (h : AL.has S.chans c = true) :
    Keq S { S with chans := AL.insert S.chans c x } := ⟨rfl, rfl, AL.keys_insert_of_has h x, rfl⟩
theorem Keq.set_mem (S : TS) (k : Bytes × Bytes) (x : ChanPrivs) (h : AL.has S.mem k = true) :
    Keq S { S with mem := AL.insert S.mem k x } := ⟨rfl, rfl, rfl, AL.keys_insert_of_has h x⟩

theorem Keq.wfs {S T : TS} (k : Keq S T) (w : WFS S) : WFS T := by
  intro c u h
  rw [k.has_mem] at h
  rw [k.has_chans, k.has_nicks]
  exact w c u h

theorem Keq_parseModes (S : TS) (c : Bytes) (op : Bool) (ms : Bytes) (args : List Bytes)
    (hc : AL.has S.chans c = true) : Keq S (parseModes S c op ms args) :=
  parseModes_ind (Keq S) c
    (fun T v k => k.trans (Keq.set_chan T c v (by rw [k.has_chans]; exact hc)))
    (fun T a _ v hl k => k.trans (Keq.set_mem T (c, a) v (AL.has_of_lookup hl))) S op ms args (Keq.refl S)

/-- the operations that only read, or only change attributes -/
def neutralOp : Op → Bool
  | .getNick _ | .getChannel _ | .me | .isOn _ _ | .nickInfo .. | .nickModes .. | .topic .. | .channelModes .. => true
  | _ => false

theorem Keq_sx (S : TS) (op : Op) (hn : neutralOp op = true) : Keq S (sx S op) := by
  cases op with
  | getNick n => rw [sx_getNick]; exact Keq.refl S
  | getChannel c => rw [sx_getChannel]; exact Keq.refl S
  | me => exact Keq.refl S
  | isOn c n => rw [sx_isOn]; exact Keq.refl S
  | nickInfo n i h name =>
    rw [sx_nickInfo]; split; exact Keq.refl S; exact Keq.set_nick S n _ (AL.has_of_lookup ‹_›)
  | nickModes n m =>
    rw [sx_nickModes]; split; exact Keq.refl S; exact Keq.set_nick S n _ (AL.has_of_lookup ‹_›)
  | topic c t =>
    rw [sx_topic]; split; exact Keq.refl S; exact Keq.set_chan S c _ (AL.has_of_lookup ‹_›)
  | channelModes c m args =>
    rw [sx_channelModes]; split; exact Keq_parseModes S c false m args ‹_›; exact Keq.refl S
  | _ => cases hn

theorem WFS.insert_nicks {S : TS} (w : WFS S) (k : Bytes) (v : SNick) : WFS { S with nicks := AL.insert S.nicks k v } := by
  intro c u h
  have := w c u h
  exact ⟨this.1, by rw [AL.has_insert, this.2, Bool.or_true]⟩
theorem WFS.insert_chans {S : TS} (w : WFS S) (k : Bytes) (v : SChan) : WFS { S with chans := AL.insert S.chans k v } := by
  intro c u h
  have := w c u h
  exact ⟨by rw [AL.has_insert, this.1, Bool.or_true], this.2⟩
theorem WFS.insert_mem {S : TS} (w : WFS S) (c n : Bytes) (v : ChanPrivs) (hc : AL.has S.chans c = true)
    (hn : AL.has S.nicks n = true) : WFS { S with mem := AL.insert S.mem (c, n) v } := by
  intro k u h
  rw [AL.has_insert, Bool.or_eq_true, decide_eq_true_eq, Prod.mk.injEq] at h
  rcases h with ⟨rfl, rfl⟩ | h
  · exact ⟨hc, hn⟩
  · exact w k u h

theorem WFS_dropNick (S : TS) (n : Bytes) (hn : n ≠ S.me) (w : WFS S) : WFS (dropNick S n) := by
  intro c u h
  rw [AL.has_eq, dropNick_mem S n c u hn] at h
  rw [AL.has_eq, AL.has_eq, dropNick_chans, dropNick_nicks S n u hn]
  by_cases hu : u = n
  · rw [if_pos hu] at h; cases h
  · rw [if_neg hu, ← AL.has_eq] at h
    rw [if_neg (fun e => hu e.symm), ← AL.has_eq, ← AL.has_eq]
    exact w c u h

theorem WFS_dropChan (S : TS) (c : Bytes) (w : WFS S) : WFS (dropChan S c) := by
  intro k u h
  rw [AL.has_eq, dropChan_mem] at h
  by_cases hk : k = c
  · rw [if_pos hk] at h; cases h
  · rw [if_neg hk, ← AL.has_eq] at h
    -- `u` is on `k` as well, so it is not forgotten
    have hl : lone S c u = false := Bool.eq_false_iff.2 fun e => by
      rw [AL.has_eq, ((lone_iff S c u).1 e).2 k hk] at h; cases h
    rw [AL.has_eq, AL.has_eq, dropChan_chans, dropChan_nicks, hl, Bool.and_false, if_neg (fun e => hk e.symm),
      if_neg Bool.false_ne_true, ← AL.has_eq, ← AL.has_eq]
    exact w k u h

theorem WFS.erase_mem {S : TS} (w : WFS S) (k : Bytes × Bytes) : WFS { S with mem := AL.erase S.mem k } := by
  intro c u h
  rw [AL.has_erase, Bool.and_eq_true] at h
  exact w c u h.2

theorem WFS_sdissoc1 (S : TS) (c a : Bytes) (w : WFS S) : WFS (sdissoc1 S c a) := by
  simp only [sdissoc1]
  split
  · exact WFS_dropNick _ a (bne_iff_ne.1 (Bool.and_eq_true_iff.1 ‹_›).2) (w.erase_mem _)
  · exact w.erase_mem _

theorem WFS_renamed (S : TS) (old neu : Bytes) (r : SNick) (h2 : AL.has S.nicks neu = false) (w : WFS S) :
    WFS (renamed S old neu r) := by
  intro c u h
  rw [AL.has_eq, renamed_mem S old neu r h2 w] at h
  rw [AL.has_eq, AL.has_eq, renamed_chans, renamed_nicks]
  by_cases hu1 : u = neu
  · rw [if_pos hu1, ← AL.has_eq] at h
    rw [if_pos hu1.symm, ← AL.has_eq]
    exact ⟨(w c old h).1, rfl⟩
  · rw [if_neg hu1] at h
    by_cases hu2 : u = old
    · rw [if_pos hu2] at h; cases h
    · rw [if_neg hu2, ← AL.has_eq] at h
      rw [if_neg (fun e => hu1 e.symm), if_neg (fun e => hu2 e.symm), ← AL.has_eq, ← AL.has_eq]
      exact w c u h

theorem WFS_sx (S : TS) (op : Op) (hu : usedOp op = true) (w : WFS S) : WFS (sx S op) := by
  by_cases hn : neutralOp op = true
  · exact (Keq_sx S op hn).wfs w
  cases op with
  | newNick n => rw [sx_newNick]; split; exact w; exact w.insert_nicks _ _
  | reNick old neu =>
    rw [sx_reNick]; split
    · exact w
    · split
      · exact w
      · exact WFS_renamed S old neu _ (Bool.eq_false_iff.2 ‹_›) w
  | delNick n => rw [sx_delNick]; split; exact WFS_dropNick S n (bne_iff_ne.1 (Bool.and_eq_true_iff.1 ‹_›).2) w; exact w
  | newChannel c => rw [sx_newChannel]; split; exact w; exact w.insert_chans _ _
  | delChannel c => cases hu
  | associate c n =>
    rw [sx_associate]; split
    · rename_i hg
      simp only [Bool.and_eq_true] at hg
      exact w.insert_mem c n _ hg.1.1 hg.1.2
    · exact w
  | dissociate c n =>
    rw [sx_dissociate]; split
    · split
      · exact WFS_dropChan S c w
      · exact WFS_sdissoc1 S c n w
    · exact w
  | wipe => cases hu
  | _ => exact absurd rfl hn

/-- `T` is `S` with more memberships and at most the channel `c` and the nick `n` more -/
structure Ext (c n : Bytes) (S T : TS) : Prop where
  me : T.me = S.me
  nicks : ∀ u, AL.has S.nicks u = true → AL.has T.nicks u = true
  chans : ∀ k, AL.has S.chans k = true → AL.has T.chans k = true
  mem : ∀ k, AL.has S.mem k = true → AL.has T.mem k = true
  nicks_new : ∀ u, AL.has T.nicks u = true → AL.has S.nicks u = true ∨ u = n
  chans_new : ∀ k, AL.has T.chans k = true → AL.has S.chans k = true ∨ k = c
  wfs : WFS S → WFS T

theorem Ext.refl (c n : Bytes) (S : TS) : Ext c n S S :=
  ⟨rfl, fun _ => id, fun _ => id, fun _ => id, fun _ => .inl, fun _ => .inl, id⟩

theorem Ext.trans {c n : Bytes} {S T U : TS} (a : Ext c n S T) (b : Ext c n T U) : Ext c n S U :=
  ⟨b.me.trans a.me, fun u h => b.nicks u (a.nicks u h), fun k h => b.chans k (a.chans k h),
   fun k h => b.mem k (a.mem k h), fun u h => (b.nicks_new u h).elim (a.nicks_new u) .inr,
   fun k h => (b.chans_new k h).elim (a.chans_new k) .inr, fun w => b.wfs (a.wfs w)⟩

theorem Ext.ite {c n : Bytes} {S T U : TS} (b : Bool) (e1 : Ext c n S T) (e2 : Ext c n S U) :
    Ext c n S (if b then T else U) := by
  cases b
  · exact e2
  · exact e1

theorem Keq.ext {S T : TS} (k : Keq S T) (c n : Bytes) : Ext c n S T :=
  ⟨k.me, fun u h => by rw [k.has_nicks]; exact h, fun u h => by rw [k.has_chans]; exact h,
   fun u h => by rw [k.has_mem]; exact h, fun u h => .inl (by rw [← k.has_nicks]; exact h),
   fun u h => .inl (by rw [← k.has_chans]; exact h), k.wfs⟩

theorem Ext_newChannel (S : TS) (c n : Bytes) : Ext c n S (sx S (.newChannel c)) := by
  rw [sx_newChannel]; split
  · exact Ext.refl c n S
  · exact ⟨rfl, fun _ => id, fun _ => AL.has_insert_mono c _, fun _ => id, fun _ => .inl, fun _ => AL.has_insert_new,
      fun w => w.insert_chans c _⟩

theorem Ext_newNick (S : TS) (c n : Bytes) : Ext c n S (sx S (.newNick n)) := by
  rw [sx_newNick]; split
  · exact Ext.refl c n S
  · exact ⟨rfl, fun _ => AL.has_insert_mono n _, fun _ => id, fun _ => id, fun _ => AL.has_insert_new, fun _ => .inl,
      fun w => w.insert_nicks n _⟩

theorem Ext_associate (S : TS) (c n : Bytes) : Ext c n S (sx S (.associate c n)) := by
  rw [sx_associate]; split
  · rename_i hg
    simp only [Bool.and_eq_true] at hg
    exact ⟨rfl, fun _ => id, fun _ => id, fun _ => AL.has_insert_mono (c, n) _, fun _ => .inl, fun _ => .inl,
      fun w => w.insert_mem c n _ hg.1.1 hg.1.2⟩
  · exact Ext.refl c n S

theorem associate_on (S : TS) (c n : Bytes) (hc : AL.has (sx S (.associate c n)).chans c = true)
    (hn : AL.has (sx S (.associate c n)).nicks n = true) : AL.has (sx S (.associate c n)).mem (c, n) = true := by
  rw [sx_associate] at hc hn ⊢
  split
  · exact (AL.has_insert _ _ _ _).trans (by rw [decide_eq_true rfl]; rfl)
  · rename_i hg
    rw [if_neg hg] at hc hn
    rw [hc, hn] at hg
    simpa using hg

theorem tName_ext (chn : Bytes) (S : TS) (b : UInt8) (tl : Bytes) (hc : AL.has S.chans chn = true) :
    ∃ nick, Ext chn nick S (tName chn S (b :: tl)) ∧
      (AL.has (tName chn S (b :: tl)).nicks nick = true → AL.has (tName chn S (b :: tl)).mem (chn, nick) = true) := by
  simp only [tName]
  generalize (if (prefixMode b).isSome = true then tl else b :: tl) = nick
  refine ⟨nick, ?_⟩
  have e2 := Ext.ite (!AL.has S.nicks nick) (Ext_newNick S chn nick) (Ext.refl chn nick S)
  generalize (if (!AL.has S.nicks nick) = true then sx S (.newNick nick) else S) = S2 at e2 ⊢
  generalize hS4 : (if sIsOn S2 chn nick = true then S2 else sx S2 (.associate chn nick)) = S4
  have key : Ext chn nick S S4 ∧ (AL.has S4.nicks nick = true → AL.has S4.mem (chn, nick) = true) := by
    rw [← hS4]; split
    · rename_i hon
      simp only [sIsOn, Bool.and_eq_true] at hon
      exact ⟨e2, fun _ => hon.2⟩
    · have e := e2.trans (Ext_associate S2 chn nick)
      exact ⟨e, associate_on S2 chn nick (e.chans _ hc)⟩
  split
  · have k := Keq_sx S4 (.channelModes chn ‹_› [nick]) rfl
    exact ⟨key.1.trans (k.ext chn nick), fun hn => by rw [k.has_mem]; exact key.2 (by rw [← k.has_nicks]; exact hn)⟩
  · exact key

theorem tName_has_chans (c : Bytes) (S : TS) (w : Bytes) (h : AL.has S.chans c = true) :
    AL.has (tName c S w).chans c = true := by
  cases w with
  | nil => exact h
  | cons b tl =>
    obtain ⟨_, e, _⟩ := tName_ext c S b tl h
    exact e.chans _ h

theorem Eqv.insert_nicks {A B : TS} (h : Eqv A B) (k : Bytes) (v : SNick) :
    Eqv { A with nicks := AL.insert A.nicks k v } { B with nicks := AL.insert B.nicks k v } :=
  ⟨fun x => by simp only [AL.lookup_insert, h.nicks], h.chans, h.mem, h.me⟩
theorem Eqv.insert_chans {A B : TS} (h : Eqv A B) (k : Bytes) (v : SChan) :
    Eqv { A with chans := AL.insert A.chans k v } { B with chans := AL.insert B.chans k v } :=
  ⟨h.nicks, fun x => by simp only [AL.lookup_insert, h.chans], h.mem, h.me⟩
theorem Eqv.insert_mem {A B : TS} (h : Eqv A B) (k : Bytes × Bytes) (v : ChanPrivs) :
    Eqv { A with mem := AL.insert A.mem k v } { B with mem := AL.insert B.mem k v } :=
  ⟨h.nicks, h.chans, fun x => by simp only [AL.lookup_insert, h.mem], h.me⟩

theorem Eqv_parseModes {A B : TS} (h : Eqv A B) (c : Bytes) (op : Bool) (ms : Bytes) (args : List Bytes) :
    Eqv (parseModes A c op ms args) (parseModes B c op ms args) :=
  parseModes_ind₂ Eqv c (fun h => ⟨(h.chans c).symm, fun a => (h.mem (c, a)).symm⟩) (fun v h => h.insert_chans c v)
    (fun a _ v _ h => h.insert_mem (c, a) v) op ms args h

theorem Eqv_dropNick {A B : TS} (h : Eqv A B) (n : Bytes) (hn : n ≠ B.me) : Eqv (dropNick A n) (dropNick B n) :=
  have hn' : n ≠ A.me := h.me ▸ hn
  ⟨fun k => by rw [dropNick_nicks A n k hn', dropNick_nicks B n k hn, h.nicks],
   fun k => by rw [dropNick_chans, dropNick_chans, h.chans],
   fun ⟨c, u⟩ => by rw [dropNick_mem A n c u hn', dropNick_mem B n c u hn, h.mem], by rw [dropNick_me, dropNick_me, h.me]⟩

theorem lone_congr {A B : TS} (h : Eqv A B) (c a : Bytes) : lone A c a = lone B c a := by
  rw [Bool.eq_iff_iff, lone_iff, lone_iff, h.me]; simp only [h.mem]

theorem Eqv_dropChan {A B : TS} (h : Eqv A B) (c : Bytes) : Eqv (dropChan A c) (dropChan B c) :=
  ⟨fun k => by rw [dropChan_nicks, dropChan_nicks, h.has_mem, lone_congr h, h.nicks],
   fun k => by rw [dropChan_chans, dropChan_chans, h.chans],
   fun ⟨x, u⟩ => by rw [dropChan_mem, dropChan_mem, h.mem], by rw [dropChan_me, dropChan_me, h.me]⟩

theorem Eqv_sdissoc1 {A B : TS} (h : Eqv A B) (c a : Bytes) : Eqv (sdissoc1 A c a) (sdissoc1 B c a) :=
  ⟨fun k => by rw [sdissoc1_nicks, sdissoc1_nicks, lone_congr h, h.nicks],
   fun k => by rw [sdissoc1_chans, sdissoc1_chans, h.chans],
   fun k => by rw [sdissoc1_mem, sdissoc1_mem, h.mem], by rw [sdissoc1_me, sdissoc1_me, h.me]⟩

theorem Eqv_renamed {A B : TS} (h : Eqv A B) (old neu : Bytes) (r : SNick) (h1 : AL.lookup A.nicks old = some r)
    (h2 : AL.has A.nicks neu = false) (wa : WFS A) : Eqv (renamed A old neu r) (renamed B old neu r) := by
  have h1' : AL.lookup B.nicks old = some r := by rw [← h.nicks]; exact h1
  have h2' : AL.has B.nicks neu = false := by rw [← h.has_nicks]; exact h2
  refine ⟨fun k => ?_, h.chans, fun ⟨c, u⟩ => ?_, ?_⟩
  · rw [renamed_nicks, renamed_nicks, h.nicks]
  · rw [renamed_mem A old neu r h2 wa, renamed_mem B old neu r h2' (h.wfs wa), h.mem, h.mem]
  · rw [renamed_me, renamed_me, h.me]

/-- `WFS` is for `reNick` alone: what `lookup` finds under the new name afterwards is what was under the old one only if
no membership mentioned the new name before (`renamed_mem`), and that is `WFS` of a state where it is unknown. -/
theorem Eqv_sx {A B : TS} (op : Op) (hu : usedOp op = true) (h : Eqv A B) (wa : WFS A) : Eqv (sx A op) (sx B op) := by
  cases op with
  | newNick n => rw [sx_newNick, sx_newNick, h.has_nicks]; split; exact h; exact h.insert_nicks _ _
  | getNick n => rw [sx_getNick, sx_getNick]; exact h
  | reNick old neu =>
    rw [sx_reNick, sx_reNick, ← h.nicks, ← h.has_nicks]; split
    · exact h
    · split
      · exact h
      · exact Eqv_renamed h old neu _ ‹_› (Bool.eq_false_iff.2 ‹_›) wa
  | delNick n =>
    rw [sx_delNick, sx_delNick, h.has_nicks, h.me]; split
    · exact Eqv_dropNick h n (bne_iff_ne.1 (Bool.and_eq_true_iff.1 ‹_›).2)
    · exact h
  | nickInfo n i ho name =>
    rw [sx_nickInfo, sx_nickInfo, h.nicks]; split; exact h; exact h.insert_nicks _ _
  | nickModes n m =>
    rw [sx_nickModes, sx_nickModes, h.nicks]; split; exact h; exact h.insert_nicks _ _
  | newChannel c => rw [sx_newChannel, sx_newChannel, h.has_chans]; split; exact h; exact h.insert_chans _ _
  | getChannel c => rw [sx_getChannel, sx_getChannel]; exact h
  | delChannel c => cases hu
  | topic c t =>
    rw [sx_topic, sx_topic, h.chans]; split; exact h; exact h.insert_chans _ _
  | channelModes c m args =>
    rw [sx_channelModes, sx_channelModes, h.has_chans]; split; exact Eqv_parseModes h _ _ _ _; exact h
  | me => exact h
  | isOn c n => rw [sx_isOn, sx_isOn]; exact h
  | associate c n =>
    rw [sx_associate, sx_associate, h.has_chans, h.has_nicks, h.has_mem]; split; exact h.insert_mem _ _; exact h
  | dissociate c n =>
    rw [sx_dissociate, sx_dissociate, h.has_chans, h.has_nicks, h.has_mem, h.me]; split
    · split
      · exact Eqv_dropChan h c
      · exact Eqv_sdissoc1 h c n
    · exact h
  | wipe => cases hu

theorem Keq.safe {S T : TS} (k : Keq S T) (h : SafeS S) : SafeS T := by
  refine ⟨?_, fun c hc => ?_, fun u hu => ?_, k.wfs h.wfs⟩
  · rw [k.me, k.has_nicks]; exact h.me
  · rw [k.me, k.has_mem]; rw [k.has_chans] at hc; exact h.chan_me c hc
  · rw [k.has_nicks] at hu; rw [k.me]
    exact (h.nick_chan u hu).imp id (fun ⟨c, hc⟩ => ⟨c, by rw [k.has_mem]; exact hc⟩)

theorem SafeS_dropNick (S : TS) (n : Bytes) (hn : n ≠ S.me) (h : SafeS S) : SafeS (dropNick S n) := by
  have hN : ∀ u, AL.has (dropNick S n).nicks u = (!decide (n = u) && AL.has S.nicks u) :=
    fun u => AL.has_ite_none (dropNick_nicks S n u hn)
  have hM : ∀ c u, AL.has (dropNick S n).mem (c, u) = (!decide (u = n) && AL.has S.mem (c, u)) :=
    fun c u => AL.has_ite_none (dropNick_mem S n c u hn)
  refine ⟨?_, fun c hc => ?_, fun u hu => ?_, WFS_dropNick S n hn h.wfs⟩
  · rw [dropNick_me, hN, h.me, decide_eq_false hn]; rfl
  · rw [dropNick_chans] at hc
    rw [dropNick_me, hM, h.chan_me c hc, decide_eq_false (Ne.symm hn)]; rfl
  · rw [hN, Bool.and_eq_true, Bool.not_eq_true', decide_eq_false_iff_not] at hu
    rw [dropNick_me]
    refine (h.nick_chan u hu.2).imp id fun ⟨c, hc⟩ => ⟨c, ?_⟩
    rw [hM, hc, decide_eq_false (fun e => hu.1 e.symm)]; rfl

theorem SafeS_dropChan (S : TS) (c : Bytes) (h : SafeS S) : SafeS (dropChan S c) := by
  have hC : ∀ k, AL.has (dropChan S c).chans k = (!decide (c = k) && AL.has S.chans k) :=
    fun k => AL.has_ite_none (dropChan_chans S c k)
  have hM : ∀ k u, AL.has (dropChan S c).mem (k, u) = (!decide (k = c) && AL.has S.mem (k, u)) :=
    fun k u => AL.has_ite_none (dropChan_mem S c k u)
  have hN : ∀ u, AL.has (dropChan S c).nicks u = (!(AL.has S.mem (c, u) && lone S c u) && AL.has S.nicks u) :=
    fun u => (AL.has_ite_none (dropChan_nicks S c u)).trans (by rw [Bool.decide_eq_true])
  refine ⟨?_, fun k hk => ?_, fun u hu => ?_, WFS_dropChan S c h.wfs⟩
  · rw [dropChan_me, hN, lone_me, h.me, Bool.and_false]; rfl
  · rw [hC, Bool.and_eq_true, Bool.not_eq_true', decide_eq_false_iff_not] at hk
    rw [dropChan_me, hM, h.chan_me k hk.2, decide_eq_false (fun e => hk.1 e.symm)]; rfl
  · rw [dropChan_me]
    rw [hN, Bool.and_eq_true, Bool.not_eq_true'] at hu
    by_cases hme : u = S.me
    · exact .inl hme
    -- `u` is somewhere; if that is `c`, it is not lone, so it is somewhere else too
    obtain ⟨c0, h0⟩ := (h.nick_chan u hu.2).resolve_left hme
    by_cases hc0 : c0 = c
    · rw [← hc0, h0, Bool.true_and] at hu
      obtain ⟨k, hkc, hk⟩ := exists_other_of_not_lone hme (hc0 ▸ hu.1)
      exact .inr ⟨k, by rw [hM, hk, decide_eq_false hkc]; rfl⟩
    · exact .inr ⟨c0, by rw [hM, h0, decide_eq_false hc0]; rfl⟩

theorem SafeS_sdissoc1 (S : TS) (c n : Bytes) (hn : n ≠ S.me) (h : SafeS S) : SafeS (sdissoc1 S c n) := by
  have hM : ∀ k u, AL.has (sdissoc1 S c n).mem (k, u) = (!decide ((c, n) = (k, u)) && AL.has S.mem (k, u)) :=
    fun k u => AL.has_ite_none (sdissoc1_mem S c n (k, u))
  have hN : ∀ u, AL.has (sdissoc1 S c n).nicks u = (!(u == n && lone S c n) && AL.has S.nicks u) :=
    fun u => (AL.has_ite_none (sdissoc1_nicks S c n u)).trans (by rw [Bool.decide_eq_true])
  have hother : ∀ k u, u ≠ n → AL.has S.mem (k, u) = true → AL.has (sdissoc1 S c n).mem (k, u) = true :=
    fun k u hu hk => by rw [hM, hk, decide_eq_false (fun e => hu (Prod.mk.inj e).2.symm)]; rfl
  refine ⟨?_, fun k hk => ?_, fun u hu => ?_, WFS_sdissoc1 S c n h.wfs⟩
  · rw [sdissoc1_me, hN, h.me, beq_false_of_ne (Ne.symm hn)]; rfl
  · rw [sdissoc1_chans] at hk
    rw [sdissoc1_me]
    exact hother k S.me (Ne.symm hn) (h.chan_me k hk)
  · rw [sdissoc1_me]
    rw [hN, Bool.and_eq_true, Bool.not_eq_true'] at hu
    by_cases hun : u = n
    · -- `n` stays only if it is on another channel
      rw [hun, beq_self_eq_true, Bool.true_and] at hu
      obtain ⟨k, hkc, hk⟩ := exists_other_of_not_lone hn hu.1
      exact .inr ⟨k, by rw [hun, hM, hk, decide_eq_false (fun e => hkc (Prod.mk.inj e).1.symm)]; rfl⟩
    · exact (h.nick_chan u hu.2).imp id fun ⟨k, hk⟩ => ⟨k, hother k u hun hk⟩

theorem SafeS_renamed (S : TS) (old neu : Bytes) (r : SNick) (h1 : AL.lookup S.nicks old = some r)
    (h2 : AL.has S.nicks neu = false) (h : SafeS S) : SafeS (renamed S old neu r) := by
  have hN : ∀ u, AL.has (renamed S old neu r).nicks u =
      if neu = u then true else if old = u then false else AL.has S.nicks u := fun u => by
    rw [AL.has_eq, renamed_nicks]; split; rfl; split <;> rfl
  have hM : ∀ k u, AL.has (renamed S old neu r).mem (k, u) =
      if u = neu then AL.has S.mem (k, old) else if u = old then false else AL.has S.mem (k, u) := fun k u => by
    rw [AL.has_eq, renamed_mem S old neu r h2 h.wfs k u]; split; rfl; split <;> rfl
  have hE := renamed_me S old neu r
  have hne : neu ≠ S.me := fun e => by rw [e, h.me] at h2; cases h2
  refine ⟨?_, fun k hk => ?_, fun u hu => ?_, WFS_renamed S old neu r h2 h.wfs⟩
  · rw [hN, hE]
    by_cases e : S.me = old
    · rw [if_pos e, if_pos rfl]
    · rw [if_neg e, if_neg hne, if_neg (fun e' => e e'.symm)]; exact h.me
  · rw [hM, hE]
    by_cases e : S.me = old
    · rw [if_pos e, if_pos rfl, ← e]; exact h.chan_me k hk
    · rw [if_neg e, if_neg hne.symm, if_neg e]; exact h.chan_me k hk
  · rw [hN] at hu
    rw [hE]
    by_cases hun : neu = u
    · subst hun
      rcases h.nick_chan old (AL.has_of_lookup h1) with h3 | ⟨c0, h3⟩
      · left; rw [if_pos h3.symm]
      · right; exact ⟨c0, by rw [hM, if_pos rfl]; exact h3⟩
    · rw [if_neg hun] at hu
      by_cases huo : old = u
      · rw [if_pos huo] at hu; cases hu
      · rw [if_neg huo] at hu
        rcases h.nick_chan u hu with h3 | ⟨c0, h3⟩
        · left; rw [if_neg (fun e => huo (e.symm.trans h3.symm)), h3]
        · right; exact ⟨c0, by rw [hM, if_neg (fun e => hun e.symm), if_neg (fun e => huo e.symm)]; exact h3⟩

theorem dropStep_eq (st : TS) (n : Bytes) :
    (if (memberships st n).isEmpty && n != st.me then dropNick st n else st) = viewDropNickIfAlone st n := by
  unfold viewDropNickIfAlone memberships dropNick
  by_cases h1 : n = st.me
  · simp [h1]
  · cases h2 : (st.mem.filter (fun m => m.1.2 == n)).isEmpty
    · simp
    · have := List.filter_not_of_filter_empty _ _ h2
      simp only [bne] at *
      simp [h1, this]

theorem dropChan_eq_viewLeaveMe (S : TS) (c : Bytes) : dropChan S c = viewLeaveMe S c := by
  unfold dropChan viewLeaveMe
  simp only [dropStep_eq]

theorem sx_dissociate_eq_viewLeave (S : TS) (c u : Bytes)
    (h : (AL.has S.chans c && AL.has S.nicks u && AL.has S.mem (c, u)) = true) :
    sx S (.dissociate c u) = viewLeave S u c := by
  rw [sx_dissociate, if_pos h]
  simp only [viewLeave, sdissoc1, dropStep_eq, dropChan_eq_viewLeaveMe]

end Proofs.C13
