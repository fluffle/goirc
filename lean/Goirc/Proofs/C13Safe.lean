import Goirc.Proofs.C13Sim
/-!
# C13, second sentence: whatever lines arrive, the tracker stays safe

`SafeS` is kept by the removals (`SafeS_dropNick`, `SafeS_dropChan`, `SafeS_sdissoc1`, `SafeS_renamed`, in `C13Ops`) and so
by every operation in `safeOp` (`SafeS_sx`).  `safeOp` leaves out five: `delChannel` and `wipe`, which no handler calls, and
the three that add a key, after which the state is safe only once the channel, the nick and the membership between them
are all there: the handlers that add them (`t_JOIN`, `tName`) do (`Ext`, `SafeS.ext`).  Every twin, hence `tFeed`, keeps
`SafeS` (`SafeS_tDispatch`); through `R` that is `Safe` of the heap tracker.
-/
namespace Proofs.C13
open Go Go.Client Go.Tracker Spec.Tracker Spec.Net

theorem has_congr {κ ν : Type} [DecidableEq κ] {m m' : List (κ × ν)} {k k' : κ}
    (h : AL.lookup m k = AL.lookup m' k') : AL.has m k = AL.has m' k' := AL.has_congr h

def safeOp : Op → Bool
  | .newNick _ | .newChannel _ | .associate .. | .delChannel _ | .wipe => false
  | _ => true

theorem SafeS_sx (S : TS) (op : Op) (hs : safeOp op = true) (h : SafeS S) : SafeS (sx S op) := by
  by_cases hn : neutralOp op = true
  · exact (Keq_sx S op hn).safe h
  cases op with
  | reNick old neu =>
    rw [sx_reNick]; split
    · exact h
    · split
      · exact h
      · exact SafeS_renamed S old neu _ ‹_› (Bool.eq_false_iff.2 ‹_›) h
  | delNick n =>
    rw [sx_delNick]; split
    · exact SafeS_dropNick S n (bne_iff_ne.1 (Bool.and_eq_true_iff.1 ‹_›).2) h
    · exact h
  | dissociate c n =>
    rw [sx_dissociate]; split
    · split
      · exact SafeS_dropChan S c h
      · rename_i hn
        exact SafeS_sdissoc1 S c n (fun e => hn (beq_iff_eq.2 e)) h
    · exact h
  | newNick n => cases hs
  | newChannel c => cases hs
  | associate c n => cases hs
  | delChannel c => cases hs
  | wipe => cases hs
  | _ => exact absurd rfl hn

theorem SafeS_ite {p : Prop} [Decidable p] {A B : TS} (ha : SafeS A) (hb : SafeS B) : SafeS (if p then A else B) := by
  split <;> assumption

theorem SafeS.sx_if {S : TS} (h : SafeS S) (b : Bool) (o : Op) (hs : safeOp o = true) :
    SafeS (if b then sx S o else S) := SafeS_ite (SafeS_sx S o hs h) h

theorem SafeS.ext {c n : Bytes} {S T : TS} (h : SafeS S) (e : Ext c n S T)
    (hc : AL.has T.chans c = true → AL.has T.mem (c, S.me) = true)
    (hn : AL.has T.nicks n = true → n = S.me ∨ AL.has T.mem (c, n) = true) : SafeS T := by
  refine ⟨?_, fun k hk => ?_, fun u hu => ?_, e.wfs h.wfs⟩
  · rw [e.me]; exact e.nicks _ h.me
  · rw [e.me]
    rcases e.chans_new k hk with h1 | rfl
    · exact e.mem _ (h.chan_me k h1)
    · exact hc hk
  · rw [e.me]
    rcases e.nicks_new u hu with h1 | rfl
    · exact (h.nick_chan u h1).imp id fun ⟨k, hk⟩ => ⟨k, e.mem _ hk⟩
    · exact (hn hu).imp id fun hm => ⟨c, hm⟩

theorem SafeS_t_001 (S : TS) (l : Line) (h : SafeS S) : SafeS (t_001 S l) := by
  unfold t_001
  split
  · exact SafeS_sx _ _ rfl (SafeS_sx _ _ rfl h)
  · exact SafeS_sx _ _ rfl h

theorem SafeS_t_433 (nn : Bytes → Bytes) (S : TS) (l : Line) (h : SafeS S) : SafeS (t_433 nn S l) := by
  unfold t_433
  split
  · exact h
  · exact h.sx_if _ _ rfl

theorem SafeS_t_STNICK (S : TS) (l : Line) (h : SafeS S) : SafeS (t_STNICK S l) := by
  unfold t_STNICK
  split
  · exact h
  · exact SafeS_sx _ _ rfl h

theorem SafeS_t_PART (S : TS) (l : Line) (h : SafeS S) : SafeS (t_PART S l) := by
  unfold t_PART
  split
  · exact h
  · exact SafeS_sx _ _ rfl h

theorem SafeS_t_KICK (S : TS) (l : Line) (h : SafeS S) : SafeS (t_KICK S l) := by
  unfold t_KICK
  split
  · exact SafeS_sx _ _ rfl h
  · exact h

theorem SafeS_t_QUIT (S : TS) (l : Line) (h : SafeS S) : SafeS (t_QUIT S l) := SafeS_sx _ _ rfl h

theorem SafeS_t_MODE (S : TS) (l : Line) (h : SafeS S) : SafeS (t_MODE S l) := by
  unfold t_MODE
  split
  · exact SafeS_ite (SafeS_sx _ _ rfl h) (SafeS_ite (h.sx_if _ _ rfl) h)
  · exact h

theorem SafeS_t_TOPIC (S : TS) (l : Line) (h : SafeS S) : SafeS (t_TOPIC S l) := by
  unfold t_TOPIC
  split
  · exact h.sx_if _ _ rfl
  · exact h

theorem SafeS_t_311 (S : TS) (l : Line) (h : SafeS S) : SafeS (t_311 S l) := by
  unfold t_311
  split
  · exact SafeS_ite (h.sx_if _ _ rfl) h
  · exact h

theorem SafeS_t_324 (S : TS) (l : Line) (h : SafeS S) : SafeS (t_324 S l) := by
  unfold t_324
  split
  · exact h.sx_if _ _ rfl
  · exact h

theorem SafeS_t_332 (S : TS) (l : Line) (h : SafeS S) : SafeS (t_332 S l) := by
  unfold t_332
  split
  · exact h.sx_if _ _ rfl
  · exact h

theorem SafeS_t_671 (S : TS) (l : Line) (h : SafeS S) : SafeS (t_671 S l) := by
  unfold t_671
  split
  · exact h.sx_if _ _ rfl
  · exact h

theorem SafeS_t_352 (S : TS) (l : Line) (h : SafeS S) : SafeS (t_352 S l) := by
  unfold t_352
  split
  · refine SafeS_ite h (SafeS_ite h ?_)
    split
    · exact h
    · split
      · exact SafeS_sx _ _ rfl h
      · exact (((SafeS_sx _ _ rfl h).sx_if _ _ rfl).sx_if _ _ rfl).sx_if _ _ rfl
  · exact h

theorem SafeS_t_JOIN (S : TS) (l : Line) (h : SafeS S) : SafeS (t_JOIN S l) := by
  unfold t_JOIN
  split
  · exact h
  rename_i chn _
  split
  · exact h
  rename_i hg
  -- the guard: the channel is known, or it is the client that joins
  have hg : ¬ AL.has S.chans chn = true → AL.has S.nicks l.nick = true ∧ l.nick = S.me := fun hc => by
    simpa [hc] using hg
  have e := ((Ext.ite (!AL.has S.chans chn) (Ext_newChannel S chn l.nick) (Ext.refl chn l.nick S)).trans
    (Ext.ite (!AL.has S.nicks l.nick)
      ((Ext_newNick _ chn l.nick).trans ((Keq_sx _ (.nickInfo l.nick l.ident l.host []) rfl).ext chn l.nick))
      (Ext.refl chn l.nick _))).trans (Ext_associate _ chn l.nick)
  dsimp only
  refine h.ext e (fun hc => ?_) (fun hn => ?_)
  · by_cases hs : AL.has S.chans chn = true
    · exact e.mem _ (h.chan_me chn hs)
    · obtain ⟨h1, h2⟩ := hg hs
      rw [← h2]
      exact associate_on _ chn l.nick hc (e.nicks _ h1)
  · by_cases hs : AL.has S.chans chn = true
    · exact .inr (associate_on _ chn l.nick (e.chans _ hs) hn)
    · exact .inl (hg hs).2

theorem SafeS_tName (chn : Bytes) (S : TS) (w : Bytes) (h : SafeS S) (hc : AL.has S.chans chn = true) :
    SafeS (tName chn S w) := by
  cases w with
  | nil => exact h
  | cons b tl =>
    obtain ⟨nick, e, hon⟩ := tName_ext chn S b tl hc
    exact h.ext e (fun _ => e.mem _ (h.chan_me chn hc)) (fun hn => .inr (hon hn))

theorem SafeS_tNames (chn : Bytes) (ws : List Bytes) (S : TS) (h : SafeS S) (hc : AL.has S.chans chn = true) :
    SafeS (tNames chn S ws) := by
  unfold tNames
  induction ws generalizing S with
  | nil => exact h
  | cons w ws ih =>
    rw [List.foldl_cons]
    exact ih _ (SafeS_tName chn S w h hc) (tName_has_chans chn S w hc)

theorem SafeS_t_353 (S : TS) (l : Line) (h : SafeS S) : SafeS (t_353 S l) := by
  unfold t_353
  split
  · split
    · exact SafeS_tNames _ _ _ h ‹_›
    · exact h
  · exact h

theorem SafeS_tDispatch (ext : UnicodeExt) (nn : Bytes → Bytes) (S : TS) (l : Line) (h : SafeS S) :
    SafeS (tDispatch ext nn S l) := by
  have h1 : SafeS (if toLower ext l.cmd == lit "001" then t_001 S l
      else if toLower ext l.cmd == lit "433" then t_433 nn S l else S) :=
    SafeS_ite (SafeS_t_001 S l h) (SafeS_ite (SafeS_t_433 nn S l h) h)
  exact stTable_cases (P := fun _ t => SafeS (match t with | some t => t _ l | none => _))
    (SafeS_t_JOIN _ l h1) (SafeS_t_KICK _ l h1) (SafeS_t_MODE _ l h1) (SafeS_t_STNICK _ l h1) (SafeS_t_PART _ l h1)
    (SafeS_t_QUIT _ l h1) (SafeS_t_TOPIC _ l h1) (SafeS_t_311 _ l h1) (SafeS_t_324 _ l h1) (SafeS_t_332 _ l h1)
    (SafeS_t_352 _ l h1) (SafeS_t_353 _ l h1) (SafeS_t_671 _ l h1) h1 (toLower ext l.cmd)

theorem SafeS_tFeed (ext : UnicodeExt) (nn : Bytes → Bytes) (S : TS) (ls : List Bytes) (h : SafeS S) :
    SafeS (tFeed ext nn S ls) := by
  induction ls generalizing S with
  | nil => exact h
  | cons l ls ih =>
    simp only [tFeed]
    split
    · exact ih _ (SafeS_tDispatch ext nn S _ h)
    · exact ih _ h

theorem SafeS_new (me : Bytes) : SafeS (Spec.Tracker.new me) := by
  refine ⟨?_, ?_, ?_, ?_⟩
  · simp [Spec.Tracker.new, AL.has_eq, AL.lookup_cons]
  · intro c hc; simp [Spec.Tracker.new, AL.has_eq] at hc
  · intro u hu
    left
    simp only [Spec.Tracker.new, AL.has_eq, AL.lookup_cons] at hu ⊢
    split at hu
    · rename_i e; exact e.symm
    · simp at hu
  · intro c u hcu; simp [Spec.Tracker.new, AL.has_eq] at hcu

theorem Safe_of_SafeS {st : St} {S : TS} (r : R st S) (h : SafeS S) : Safe st := by
  obtain ⟨a, ea, ha⟩ := R_me r
  have hme : (Go.Tracker.step st .me).2 = .nick (some a) := congrArg Prod.snd ea
  have hame : a.nick = S.me := ha.1
  refine ⟨⟨a, hme, ?_⟩, fun c cs hcs => ⟨a, hme, ?_⟩, fun u us hus => ?_⟩
  · obtain ⟨o, eo, ho, _⟩ := R_getNick r a.nick
    rw [hame, h.me] at ho
    obtain ⟨m, rfl⟩ := Option.isSome_iff_exists.1 ho
    exact ⟨m, congrArg Prod.snd eo⟩
  · obtain ⟨o, eo, ho, _⟩ := R_getChannel r c
    rw [eo] at hcs; cases hcs
    obtain ⟨p, ep⟩ := R_isOn r c a.nick
    refine ⟨p, ?_⟩
    rw [ep, hame, h.me, ← ho, h.chan_me c ho.symm]; rfl
  · obtain ⟨o, eo, ho, hs⟩ := R_getNick r u
    rw [eo] at hus; cases hus
    rcases h.nick_chan u ho.symm with h2 | ⟨c, h2⟩
    · exact .inl ⟨a, hme, hame.trans h2.symm⟩
    · exact .inr fun he => nickSnap_channels_ne_nil h2 (he ▸ (hs us rfl).2.2.2.2.2).symm.eq_nil

theorem safety_of_CRx {ext : UnicodeExt} {nn : Bytes → Bytes} {c : Client} {S : TS} (h : CRx ext nn c S) (hs : SafeS S)
    (lines : List Bytes) : ∃ st, (feed c lines).st = some st ∧ Safe st := by
  obtain ⟨st, hst, r⟩ := (CRx_feed h lines).2.2
  exact ⟨st, hst, Safe_of_SafeS r (SafeS_tFeed _ _ _ _ hs)⟩

theorem safety_core (me ident real : Bytes) (ext : UnicodeExt) (lines : List Bytes) :
    let c0 : Client := { cfg := { meNick := me, meIdent := ident, meName := real }, newNick := defaultNewNick, ext := ext }
    ∃ st, (feed (enableTracking c0) lines).st = some st ∧ Safe st := by
  intro c0
  exact safety_of_CRx (CRx_enable c0 rfl) (SafeS_sx _ _ rfl (SafeS_new me)) lines

end Proofs.C13
