import Goirc.Model.Locked
import Goirc.Proofs.ListLemmas
/-!
# The generic mutex LTS (C14, second half)

`Step` is `Go.Locked.step` as a relation.  Three invariants of `Reach`: `atomic` (the object is the sequential run of
`hist`), `muInv` (whoever is between `Lock` and `Unlock` owns the mutex), and `inv`: the real-time log and the lock-order
history are linked by a ghost list of stamps (`Inv`), from which `Inv.before` and `Inv.stamp_after` read off that lock
order respects real time.
-/
namespace Go.Locked
variable {σ Op Ret : Type}

@[simp] theorem setPc_self (s : St σ Op Ret) (t : Tid) (p : Pc Op Ret) : setPc s t p t = p := by
  simp [setPc]

theorem setPc_ne (s : St σ Op Ret) {t u : Tid} (p : Pc Op Ret) (h : u ≠ t) : setPc s t p u = s.pc u := by
  simp [setPc, h]

inductive Step (f : σ → Op → σ × Ret) (s : St σ Op Ret) : Label Op → St σ Op Ret → Prop
  | call {t o} : s.pc t = .idle →
      Step f s (.call t o) { s with pc := setPc s t (.waiting o), log := s.log ++ [.call t o] }
  | lock {t o} : s.pc t = .waiting o → s.mu = none →
      Step f s (.lock t) { s with mu := some t, pc := setPc s t (.holding o) }
  | body {t o} : s.pc t = .holding o →
      Step f s (.body t) { s with obj := (f s.obj o).1, pc := setPc s t (.finished o (f s.obj o).2),
                                  hist := s.hist ++ [(t, o, (f s.obj o).2)] }
  | unlockRet {t o r} : s.pc t = .finished o r →
      Step f s (.unlockRet t) { s with mu := none, pc := setPc s t .idle, log := s.log ++ [.ret t o r] }

theorem Step.of_step {f : σ → Op → σ × Ret} {s s' : St σ Op Ret} {l : Label Op} (h : step f s l = some s') :
    Step f s l s' := by
  cases l <;> dsimp only [step] at h <;> split at h <;> cases h
  · exact .call ‹_›
  · exact .lock ‹_› ‹_›
  · exact .body ‹_›
  · exact .unlockRet ‹_›

theorem seqRun_snoc (f : σ → Op → σ × Ret) : ∀ (x : σ) (os : List Op) (o : Op),
    seqRun f x (os ++ [o]) =
      ((f (seqRun f x os).1 o).1, (seqRun f x os).2 ++ [(f (seqRun f x os).1 o).2]) := by
  intro x os
  induction os generalizing x with
  | nil => intro o; simp [seqRun]
  | cons a os ih => intro o; simp [seqRun, ih]

theorem atomic (f : σ → Op → σ × Ret) (x : σ) {s : St σ Op Ret} (h : Reach f x s) :
    seqRun f x (s.hist.map (·.2.1)) = (s.obj, s.hist.map (·.2.2)) := by
  induction h with
  | init => rfl
  | step _ hs ih =>
    cases Step.of_step hs with
    | call _ | lock _ _ | unlockRet _ => exact ih
    | body _ =>
      simp only [List.map_append, List.map_cons, List.map_nil]
      rw [seqRun_snoc, ih]

theorem muInv (f : σ → Op → σ × Ret) (x : σ) {s : St σ Op Ret} (h : Reach f x s) :
    ∀ t, ((∃ o, s.pc t = .holding o) ∨ (∃ o r, s.pc t = .finished o r)) → s.mu = some t := by
  induction h with
  | init => intro t ht; rcases ht with ⟨o, ho⟩ | ⟨o, r, ho⟩ <;> cases ho
  | step _ hs ih =>
    intro u hu
    cases Step.of_step hs with
    | @call t o hp =>
      by_cases hut : u = t
      · subst hut; simp at hu
      · simp only [setPc_ne _ _ hut] at hu; exact ih u hu
    | @lock t o hp hm =>
      by_cases hut : u = t
      · subst hut; rfl
      · simp only [setPc_ne _ _ hut] at hu
        cases hm.symm.trans (ih u hu)
    | @body t o hp =>
      by_cases hut : u = t
      · subst hut; exact ih u (Or.inl ⟨o, hp⟩)
      · simp only [setPc_ne _ _ hut] at hu; exact ih u hu
    | @unlockRet t o r hp =>
      by_cases hut : u = t
      · subst hut; simp at hu
      · simp only [setPc_ne _ _ hut] at hu
        exact absurd (Option.some.inj ((ih u hu).symm.trans (ih t (Or.inr ⟨o, r, hp⟩)))) hut

def byT (t : Tid) : Tid × Op × Ret → Bool := fun e => e.1 == t

def isCallBy (t : Tid) : Ev Op Ret → Bool
  | .call u _ => u == t
  | _ => false

def pending : Pc Op Ret → Nat
  | .waiting _ => 1
  | .holding _ => 1
  | _ => 0

/-- Invariant linking the real-time log with the lock-order history.  The ghost list `st` gives, for
every entry of `hist`, the length of the log at the moment the body ran. -/
structure Inv (s : St σ Op Ret) (st : List Nat) : Prop where
  len : st.length = s.hist.length
  mono : ∀ (a b na nb : Nat), a ≤ b → st[a]? = some na → st[b]? = some nb → na ≤ nb
  bound : ∀ (a n : Nat), st[a]? = some n → n ≤ s.log.length
  ret : ∀ (i : Nat) (t : Tid) (o : Op) (r : Ret), s.log[i]? = some (Ev.ret t o r) →
    ∃ (k n : Nat), s.hist[k]? = some (t, o, r) ∧ st[k]? = some n ∧ n ≤ i
  call : ∀ (j : Nat) (t : Tid) (o : Op), s.log[j]? = some (Ev.call t o) →
    (s.pc t = .waiting o ∨ s.pc t = .holding o) ∨
      ∃ (k : Nat) (r : Ret) (n : Nat), s.hist[k]? = some (t, o, r) ∧ st[k]? = some n ∧ j < n
  fin : ∀ (t : Tid) (o : Op) (r : Ret), s.pc t = .finished o r →
    ∃ (k n : Nat), s.hist[k]? = some (t, o, r) ∧ st[k]? = some n
  /-- a thread has as many entries in `hist` as call events in the log, the call whose body has not run yet aside: each
  thread runs its operations one after the other -/
  cnt : ∀ (t : Tid), s.hist.countP (byT t) + pending (s.pc t) = s.log.countP (isCallBy t)
  /-- the same count at the moment a body ran: the entry `k` of thread `t` is its n-th where the log up to the stamp holds
  its n-th call. This matches a call event with its `hist` entry (`Inv.stamp_after`, `order_respects_real_time_nth`). -/
  stamp : ∀ (k : Nat) (t : Tid) (o : Op) (r : Ret) (n : Nat), s.hist[k]? = some (t, o, r) → st[k]? = some n →
    (s.hist.take (k + 1)).countP (byT t) = (s.log.take n).countP (isCallBy t)

/-- `Inv.call` after a move of one thread that leaves a call it was waiting or holding for pending -/
theorem Inv.call_setPc {s : St σ Op Ret} {st : List Nat} (I : Inv s st) {t : Tid} (p : Pc Op Ret)
    (hp : ∀ o, s.pc t = .waiting o ∨ s.pc t = .holding o → p = .waiting o ∨ p = .holding o) {j : Nat} {t' : Tid} {o' : Op}
    (e : s.log[j]? = some (.call t' o')) :
    (setPc s t p t' = .waiting o' ∨ setPc s t p t' = .holding o') ∨
      ∃ (k : Nat) (r : Ret) (n : Nat), s.hist[k]? = some (t', o', r) ∧ st[k]? = some n ∧ j < n := by
  rcases I.call j t' o' e with h1 | h1
  · by_cases htt : t' = t
    · subst htt; rw [setPc_self]; exact .inl (hp o' h1)
    · rw [setPc_ne _ _ htt]; exact .inl h1
  · exact .inr h1

theorem Inv.fin_setPc {s : St σ Op Ret} {st : List Nat} (I : Inv s st) {t : Tid} {p : Pc Op Ret}
    (hp : ∀ o r, p ≠ .finished o r) {t' : Tid} {o' : Op} {r' : Ret} (e : setPc s t p t' = .finished o' r') :
    ∃ (k n : Nat), s.hist[k]? = some (t', o', r') ∧ st[k]? = some n := by
  by_cases htt : t' = t
  · subst htt; rw [setPc_self] at e; exact absurd e (hp _ _)
  · rw [setPc_ne _ _ htt] at e; exact I.fin t' o' r' e

/-- a call or a return is logged: `hist` and the stamps stay, so the fields that do not look at `pc` carry over -/
theorem Inv.log_snoc {s s' : St σ Op Ret} {st : List Nat} (I : Inv s st) {e : Ev Op Ret}
    (hh : s'.hist = s.hist) (hl : s'.log = s.log ++ [e])
    (ret : ∀ t o r, e = .ret t o r → ∃ (k n : Nat), s.hist[k]? = some (t, o, r) ∧ st[k]? = some n)
    (call : ∀ (j : Nat) (t : Tid) (o : Op), s'.log[j]? = some (Ev.call t o) →
      (s'.pc t = .waiting o ∨ s'.pc t = .holding o) ∨
        ∃ (k : Nat) (r : Ret) (n : Nat), s.hist[k]? = some (t, o, r) ∧ st[k]? = some n ∧ j < n)
    (fin : ∀ (t : Tid) (o : Op) (r : Ret), s'.pc t = .finished o r →
      ∃ (k n : Nat), s.hist[k]? = some (t, o, r) ∧ st[k]? = some n)
    (cnt : ∀ (t : Tid), s.hist.countP (byT t) + pending (s'.pc t) = (s.log ++ [e]).countP (isCallBy t)) :
    Inv s' st := by
  refine ⟨hh ▸ I.len, I.mono, fun a n h => ?_, fun i t o r h => ?_, hh ▸ call, hh ▸ fin, hh ▸ hl ▸ cnt,
    fun k t o r n h1 h2 => ?_⟩
  · rw [hl, List.length_append]; exact Nat.le_add_right_of_le (I.bound a n h)
  · rw [hh]
    rcases List.getElem?_concat_eq_some.1 (hl ▸ h) with h | ⟨hi, h⟩
    · exact I.ret i t o r h
    · obtain ⟨k, n, h1, h2⟩ := ret t o r h
      exact ⟨k, n, h1, h2, hi ▸ I.bound k n h2⟩
  · rw [hl, List.take_append_of_le_length (I.bound k n h2), hh]
    exact I.stamp k t o r n (hh ▸ h1) h2

theorem inv (f : σ → Op → σ × Ret) (x : σ) {s : St σ Op Ret} (h : Reach f x s) : ∃ st, Inv s st := by
  induction h with
  | init =>
    refine ⟨[], rfl, ?_, ?_, ?_, ?_, ?_, ?_, ?_⟩
    · intro a b na nb _ e; simp at e
    · intro a n e; simp at e
    · intro i t o r e; simp [init] at e
    · intro j t o e; simp [init] at e
    · intro t o r e; cases e
    · intro t; rfl
    · intro k t o r n e; simp [init] at e
  | @step s l s' _ hs ih =>
    obtain ⟨st, I⟩ := ih
    cases Step.of_step hs with
    | @call t o hp =>
      refine ⟨st, I.log_snoc rfl rfl nofun (fun j t' o' e => ?_) (fun _ _ _ => I.fin_setPc (p := .waiting o) nofun)
        fun u => ?_⟩
      · rcases List.getElem?_concat_eq_some.1 e with e | ⟨_, e⟩
        · exact I.call_setPc _ (by simp [hp]) e
        · cases e; exact .inl (.inl (setPc_self ..))
      · have := I.cnt u
        by_cases hut : u = t
        · subst hut
          rw [hp] at this
          simpa [pending, isCallBy] using this
        · simpa [setPc_ne _ _ hut, isCallBy, Ne.symm hut] using this
    | @lock t o hp hm =>
      refine ⟨st, I.len, I.mono, I.bound, I.ret, fun _ _ _ => I.call_setPc _ (by simp [hp]),
        fun _ _ _ => I.fin_setPc (p := .holding o) nofun, fun u => ?_, I.stamp⟩
      have := I.cnt u
      by_cases hut : u = t
      · subst hut
        rw [hp] at this
        simpa [pending] using this
      · simpa only [setPc_ne _ _ hut] using this
    | @body t o hp =>
      -- the body runs now: its stamp is the present length of the log, the largest so far (`bound`), and every call
      -- event already logged lies before it
      have hnew : (st ++ [s.log.length])[s.hist.length]? = some s.log.length := by
        rw [← I.len]; simp
      have hbound : ∀ (a n : Nat), (st ++ [s.log.length])[a]? = some n → n ≤ s.log.length := fun a n e => by
        rcases List.getElem?_concat_eq_some.1 e with e | ⟨_, e⟩
        · exact I.bound a n e
        · exact Nat.le_of_eq e.symm
      refine ⟨st ++ [s.log.length], ?_, ?_, hbound, ?_, ?_, ?_, ?_, ?_⟩
      · simp [I.len]
      · intro a b na nb hab ea eb
        rcases List.getElem?_concat_eq_some.1 eb with eb | ⟨_, eb⟩
        · have := List.lt_length_of_getElem? eb
          rw [List.getElem?_append_left (by omega)] at ea
          exact I.mono a b na nb hab ea eb
        · exact eb ▸ hbound a na ea
      · intro i t' o' r' e
        obtain ⟨k, n, h1, h2, h3⟩ := I.ret i t' o' r' e
        exact ⟨k, n, List.getElem?_concat_eq_some.2 (.inl h1), List.getElem?_concat_eq_some.2 (.inl h2), h3⟩
      · intro j t' o' e
        rcases I.call j t' o' e with h1 | ⟨k, r, n, h1, h2, h3⟩
        · by_cases htt : t' = t
          · subst htt
            rw [hp] at h1
            cases h1.resolve_left nofun
            exact .inr ⟨s.hist.length, _, s.log.length, List.getElem?_concat_length, hnew, List.lt_length_of_getElem? e⟩
          · simp only [setPc_ne _ _ htt]; exact .inl h1
        · exact .inr ⟨k, r, n, List.getElem?_concat_eq_some.2 (.inl h1), List.getElem?_concat_eq_some.2 (.inl h2), h3⟩
      · intro t' o' r' e
        by_cases htt : t' = t
        · subst htt
          simp only [setPc_self] at e
          cases e
          exact ⟨s.hist.length, s.log.length, List.getElem?_concat_length, hnew⟩
        · simp only [setPc_ne _ _ htt] at e
          obtain ⟨k, n, h1, h2⟩ := I.fin t' o' r' e
          exact ⟨k, n, List.getElem?_concat_eq_some.2 (.inl h1), List.getElem?_concat_eq_some.2 (.inl h2)⟩
      · intro u
        have := I.cnt u
        by_cases hut : u = t
        · subst hut
          rw [hp] at this
          simpa [pending, byT] using this
        · simpa [setPc_ne _ _ hut, byT, Ne.symm hut] using this
      · intro k u o' r' n h1 h2
        rcases List.getElem?_concat_eq_some.1 h2 with h2 | ⟨hk, hn⟩
        · have hk := I.len ▸ List.lt_length_of_getElem? h2
          rw [List.getElem?_append_left hk] at h1
          rw [List.take_append_of_le_length hk]
          exact I.stamp k u o' r' n h1 h2
        · rw [hk, I.len, List.getElem?_concat_length] at h1
          cases h1
          subst hk hn
          have := I.cnt t
          rw [hp] at this
          rw [List.take_of_length_le (by simp [I.len]), List.take_length]
          simpa [pending, byT] using this
    | @unlockRet t o r hp =>
      refine ⟨st, I.log_snoc rfl rfl (by rintro _ _ _ ⟨⟩; exact I.fin _ _ _ hp) (fun j t' o' e => ?_)
        (fun _ _ _ => I.fin_setPc (p := .idle) nofun) fun u => ?_⟩
      · rcases List.getElem?_concat_eq_some.1 e with e | ⟨_, e⟩
        · exact I.call_setPc _ (by simp [hp]) e
        · cases e
      · have := I.cnt u
        by_cases hut : u = t
        · subst hut
          rw [hp] at this
          simpa [pending, isCallBy] using this
        · simpa [setPc_ne _ _ hut, isCallBy] using this

/-- an operation that returned (log position `i`) before log position `j` precedes, in lock order, every
history entry whose body ran after log position `j` -/
theorem Inv.before {s : St σ Op Ret} {st : List Nat} (I : Inv s st) {i j : Nat} {ta : Tid} {oa : Op} {ra : Ret}
    (hi : s.log[i]? = some (.ret ta oa ra)) (hij : i < j) {kb nb : Nat} (hkb : st[kb]? = some nb) (hnb : j < nb) :
    ∃ ka, ka < kb ∧ s.hist[ka]? = some (ta, oa, ra) := by
  obtain ⟨ka, na, h1, h2, h3⟩ := I.ret i ta oa ra hi
  refine ⟨ka, ?_, h1⟩
  rcases Nat.lt_or_ge ka kb with h' | h'
  · exact h'
  · have := I.mono kb ka nb na h' hkb h2
    omega

/-- the stamp of the history entry that belongs to the call at log position `j` is after `j` -/
theorem Inv.stamp_after {s : St σ Op Ret} {st : List Nat} (I : Inv s st) {j : Nat} {tb : Tid} {ob ob' : Op}
    (hj : s.log[j]? = some (.call tb ob')) {kb : Nat} {rb : Ret} (hkb : s.hist[kb]? = some (tb, ob, rb))
    (hnth : (s.hist.take (kb + 1)).countP (byT tb) = (s.log.take (j + 1)).countP (isCallBy tb))
    {nb : Nat} (hst : st[kb]? = some nb) : j < nb := by
  have h1 := I.stamp kb tb ob rb nb hkb hst
  rcases Nat.lt_or_ge j nb with h' | h'
  · exact h'
  · have h2 : (s.log.take nb).countP (isCallBy tb) ≤ (s.log.take j).countP (isCallBy tb) :=
      (List.take_sublist_take_left h').countP_le
    have h3 : (s.log.take (j + 1)).countP (isCallBy tb) = (s.log.take j).countP (isCallBy tb) + 1 := by
      rw [List.take_add_one, hj]
      simp [isCallBy]
    omega

end Go.Locked
