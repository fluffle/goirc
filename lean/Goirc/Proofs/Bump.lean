import Goirc.Proofs.AList
/-!
Heaps that only grow: an association list keyed by `Nat` together with a counter `n`, the next address
handed out, above every address in use.  `Go.Copy.Heap` and `Go.Snapshot.Heap` are both such a pair
`(objs, next)`, and `alloc` in both appends `(next, o)` and bumps the counter.
-/
namespace AL
variable {ν : Type} {m m' m'' : List (Nat × ν)} {n n' n'' : Nat}

def Below (m : List (Nat × ν)) (n : Nat) : Prop := ∀ r o, (r, o) ∈ m → r < n

theorem Below.lt_of_lookup (hb : Below m n) {r : Nat} {o : ν} (h : lookup m r = some o) : r < n :=
  hb r o (mem_of_lookup h)

theorem Below.lookup_of_le (hb : Below m n) {r : Nat} (hr : n ≤ r) : lookup m r = none := by
  cases h : lookup m r with
  | none => rfl
  | some o => exact absurd (hb.lt_of_lookup h) (Nat.not_lt.2 hr)

theorem lookup_alloc (hb : Below m n) (o : ν) (r : Nat) :
    lookup (m ++ [(n, o)]) r = if r = n then some o else lookup m r := by
  rw [lookup_append, lookup_cons, lookup_nil]
  by_cases hr : r = n
  · rw [if_pos hr, if_pos hr.symm, hr, hb.lookup_of_le (Nat.le_refl n)]; rfl
  · rw [if_neg hr, if_neg (fun c => hr c.symm), Option.or_none]

theorem Below.alloc (hb : Below m n) (o : ν) : Below (m ++ [(n, o)]) (n + 1) := by
  intro r o' hm
  rcases List.mem_append.1 hm with hm | hm
  · exact Nat.lt_succ_of_lt (hb r o' hm)
  · cases List.mem_singleton.1 hm; exact Nat.lt_succ_self n

/-- `(m', n')` is `(m, n)` after some allocations -/
structure Ext (m : List (Nat × ν)) (n : Nat) (m' : List (Nat × ν)) (n' : Nat) : Prop where
  below : Below m' n'
  le : n ≤ n'
  lookup : ∀ r, r < n → lookup m' r = lookup m r

theorem Ext.refl (hb : Below m n) : Ext m n m n := ⟨hb, Nat.le_refl n, fun _ _ => rfl⟩

theorem Ext.trans (a : Ext m n m' n') (b : Ext m' n' m'' n'') : Ext m n m'' n'' :=
  ⟨b.below, Nat.le_trans a.le b.le, fun r hr => (b.lookup r (Nat.lt_of_lt_of_le hr a.le)).trans (a.lookup r hr)⟩

theorem Ext.alloc (hb : Below m n) (o : ν) : Ext m n (m ++ [(n, o)]) (n + 1) :=
  ⟨hb.alloc o, Nat.le_succ n, fun r hr => by rw [lookup_alloc hb, if_neg (Nat.ne_of_lt hr)]⟩

end AL
