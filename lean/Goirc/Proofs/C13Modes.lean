import Goirc.Proofs.C13Ops
/-!
# C13: `parseModes` letter by letter

One equation per kind of first letter of the mode string: a sign, a list mode, a privilege letter, and - given the channel's
record `r`, with `stM` for its update - a flag that `applyChanFlag` knows, `k`, `l`.  The proofs that read a rendered MODE
line, 324 reply or NAMES prefix back step through the string with these.
-/
namespace Proofs.C13
open Go Go.Tracker Spec.Tracker

section
variable (S : TS) (c : Bytes) (op : Bool) (rest : Bytes) (args : List Bytes)

theorem parseModes_plus : parseModes S c op (43 :: rest) args = parseModes S c true rest args := by
  rw [parseModes.eq_def]; rfl

theorem parseModes_minus : parseModes S c op (45 :: rest) args = parseModes S c false rest args := by
  rw [parseModes.eq_def]; rfl

theorem parseModes_ban : parseModes S c op (98 :: rest) args = parseModes S c op rest args.tail := by
  rw [parseModes.eq_def]; rfl

theorem parseModes_priv {m : UInt8} (hm : m ∈ [113, 97, 111, 104, 118]) (a : Bytes) (more : List Bytes) {p : ChanPrivs}
    (hp : AL.lookup S.mem (c, a) = some p) :
    parseModes S c op (m :: rest) (a :: more) =
      parseModes { S with mem := AL.insert S.mem (c, a) (applyPriv p op m) } c op rest more := by
  simp only [List.mem_cons, List.not_mem_nil, or_false] at hm
  rcases hm with rfl | rfl | rfl | rfl | rfl <;> (rw [parseModes.eq_def]; simp only [hp]; rfl)

end

def stM (S : TS) (c t : Bytes) (md : ChanMode) : TS :=
  { S with chans := AL.insert S.chans c { topic := t, modes := md } }

theorem stM_lookup (S : TS) (c t : Bytes) (md : ChanMode) :
    (AL.lookup (stM S c t md).chans c).getD {} = { topic := t, modes := md } := by
  simp [stM, AL.lookup_insert]

theorem stM_stM (S : TS) (c t t' : Bytes) (md md' : ChanMode) : stM (stM S c t md) c t' md' = stM S c t' md' := by
  simp only [stM, AL.insert_insert]

section
variable (S : TS) (c : Bytes) (op : Bool) (rest : Bytes) (args : List Bytes) {r : SChan}
  (hr : (AL.lookup S.chans c).getD {} = r)
include hr

theorem parseModes_flag {m : UInt8} {md : ChanMode} (h : applyChanFlag r.modes op m = some md) :
    parseModes S c op (m :: rest) args =
      parseModes (stM S c r.topic md) c op rest args := by
  have hp : (m == 43) = false := Bool.eq_false_iff.2 fun e => by rw [beq_iff_eq.1 e] at h; cases h
  have hm : (m == 45) = false := Bool.eq_false_iff.2 fun e => by rw [beq_iff_eq.1 e] at h; cases h
  rw [parseModes.eq_def]
  simp only [hp, hm, Bool.false_eq_true, if_false, hr, h]; rfl

theorem parseModes_key_add (a : Bytes) (more : List Bytes) :
    parseModes S c true (107 :: rest) (a :: more) =
      parseModes (stM S c r.topic { r.modes with key := a }) c true rest more := by
  rw [parseModes.eq_def]; simp only [hr]; rfl

theorem parseModes_key_del :
    parseModes S c false (107 :: rest) args =
      parseModes (stM S c r.topic { r.modes with key := [] }) c false rest args := by
  rw [parseModes.eq_def]; simp only [hr]; rfl

theorem parseModes_limit_add (a : Bytes) (more : List Bytes) :
    parseModes S c true (108 :: rest) (a :: more) =
      parseModes (stM S c r.topic { r.modes with limit := Go.atoi a }) c true rest more := by
  rw [parseModes.eq_def]; simp only [hr]; rfl

theorem parseModes_limit_del :
    parseModes S c false (108 :: rest) args =
      parseModes (stM S c r.topic { r.modes with limit := 0 }) c false rest args := by
  rw [parseModes.eq_def]; simp only [hr]; rfl
end
end Proofs.C13
