import Goirc.Spec.Register
import Goirc.Proofs.ParseLine
import Goirc.Proofs.Commands
import Goirc.Proofs.Client
/-!
# C18: the lines `PING :token` and `PONG :token` on the wire, and the dial address

Each line parses to its verb with the token, whatever bytes it has, as the only argument (`parse_ping`, `parse_pong`, from
`parse_verb_trailing`). An address with the default port added has an explicit port in the Spec's sense
(`hasExplicitPort_append`), so it is dialled unchanged the next time.
-/
namespace Go

theorem parse_ping (ext : UnicodeExt) (tok : Bytes) :
    parseLine ext (lit "PING :" ++ tok) =
      some { raw := lit "PING :" ++ tok, cmd := lit "PING", args := [tok] } := by
  have e : lit "PING :" = lit "PING" ++ [32, 58] := by decide +kernel
  rw [e, List.append_assoc]
  exact parse_verb_trailing ext (lit "PING") tok (by decide +kernel)

theorem parse_pong (ext : UnicodeExt) (tok : Bytes) :
    parseLine ext (lit "PONG :" ++ tok) =
      some { raw := lit "PONG :" ++ tok, cmd := lit "PONG", args := [tok] } := by
  have e : lit "PONG :" = lit "PONG" ++ [32, 58] := by decide +kernel
  rw [e, List.append_assoc]
  exact parse_verb_trailing ext (lit "PONG") tok (by decide +kernel)

end Go

namespace Spec.Register
open Go

theorem hasExplicitPort_append (host port : Bytes) (h58 : (58 : UInt8) ∉ port) (h93 : (93 : UInt8) ∉ port) :
    hasExplicitPort (host ++ [58] ++ port) = true := by
  have a : lastIndexByte (host ++ [58] ++ port) 58 = some host.length := by
    rw [List.append_assoc]; exact lastIndexByte_append_cons 58 host port h58
  have b : lastIndexByte (host ++ [58] ++ port) 93 = lastIndexByte host 93 := by
    rw [List.append_assoc, lastIndexByte_append_not_mem 93 host ([58] ++ port) (by simp [h93])]
  simp only [hasExplicitPort, a, b]
  cases h : lastIndexByte host 93 with
  | none => rfl
  | some j => simpa using lastIndexByte_lt 93 host j h

end Spec.Register
