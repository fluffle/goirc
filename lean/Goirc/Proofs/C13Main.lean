import Goirc.Proofs.C13Twins
import Goirc.Proofs.C13Parse
import Goirc.Proofs.C13Inv
import Goirc.Proofs.C13Sim
import Goirc.Proofs.C13EvJoin
import Goirc.Proofs.C13EvLeave
import Goirc.Proofs.C13EvNick
import Goirc.Proofs.C13EvMode
import Goirc.Proofs.C13EvAnswer
/-!
# C13, first sentence: assembly

Per event the twins bring the view to the new view (`ev_view`, from `C13Ev*`); the twins respect `Eqv` (`Eqv_tFeed`,
`C13Twins`); the handlers are simulated by the twins (`C13Sim`); the network invariant is kept (`C13Inv`).  Induction over
the session (`session_ind`), the start (`start_related`), then the tracker's answers are read off through `R`
(`query_eqv`, `Holds_of`).

The tracker's relational state and the server's view are compared by `Eqv`, lookup by lookup, not by `=`: they reach the
same finite maps by different insertions.  The handlers enter a joining user and then fill in ident and host where the view
enters the finished record, and the NAMES and WHO replies go over the members in the order of the reply: the lists differ
in order or in how often a key was written (`ev_join_me`, `ev_join_other`, `ev_answerWho`; the other events give equal
lists).  `Eqv_tFeed` wants `WFS` of one side (`Eqv_sx`): `session_ind` has it for the tracker's state (`WFS_of_R`).
-/
namespace Proofs.C13
open Go Go.Client Go.Tracker Spec.Tracker Spec.Net

theorem ev_view (ext : UnicodeExt) (nn : Bytes → Bytes) (n : Net) (e : Event) (hi : NetInv n)
    (hc : conforms n e = true) :
    Eqv (tFeed ext nn n.view (serverStep n e).2) (serverStep n e).1.view := by
  cases e with
  | join u c => exact ev_join ext nn n u c hi hc
  | part u c => exact ev_part ext nn n u c hi hc
  | kick k c v => exact ev_kick ext nn n k c v hi hc
  | quit u => exact ev_quit ext nn n u hi hc
  | nick u nw => exact ev_nick ext nn n u nw hi hc
  | topic u c t => exact ev_topic ext nn n u c t hi hc
  | mode u c chs => exact ev_mode ext nn n u c chs hi hc
  | answerMode c => exact ev_answerMode ext nn n c hi hc
  | answerWho c => exact ev_answerWho ext nn n c hi hc
  | umode a l => exact ev_umode ext nn n a l hi hc

theorem session_ind (ext : UnicodeExt) (nn : Bytes → Bytes) (evs : List Event) :
    ∀ (n : Net) (c : Client) (S : TS), NetInv n → CRx ext nn c S → Eqv S n.view → (∀ e ∈ evs, evOk e) →
      ∃ S', CRx ext nn (runNet n c evs).2 S' ∧ Eqv S' (runNet n c evs).1.view ∧ NetInv (runNet n c evs).1 := by
  induction evs with
  | nil => intro n c S hi hc he _; exact ⟨S, hc, he, hi⟩
  | cons e es ih =>
    intro n c S hi hc he hok
    have hok' : ∀ e ∈ es, evOk e := fun x hx => hok x (List.mem_cons_of_mem _ hx)
    simp only [runNet]
    by_cases hcf : conforms n e = true
    · rw [if_pos hcf]
      obtain ⟨st, hst, r⟩ := hc.2.2
      refine ih _ _ (tFeed ext nn S (serverStep n e).2) (NetInv_step n e hi hcf (hok e (by simp)))
        (CRx_feed hc _) ?_ hok'
      exact (Eqv_tFeed ext nn _ he (WFS_of_R r)).trans (ev_view ext nn n e hi hcf)
    · rw [if_neg hcf]
      exact ih n c S hi hc he hok'

/-- `Eqv` compares lookups, the snapshots list `mem`: for the lists to be permutations of one another the membership keys
must be distinct on both sides.  `R` gives that for the tracker's state (`Abs.mem_nodup`), `NetInv` for the view
(`view_mem_nodup`); neither says it of `nicks` or `chans`, which are only ever looked up. -/
theorem query_eqv {A B : TS} (h : Eqv A B) (na : (AL.keys A.mem).Nodup) (nb : (AL.keys B.mem).Nodup) :
    (∀ name, Props.C12.RetEq (Spec.Tracker.step A (.getNick name)).2 (Spec.Tracker.step B (.getNick name)).2) ∧
    (∀ name, Props.C12.RetEq (Spec.Tracker.step A (.getChannel name)).2 (Spec.Tracker.step B (.getChannel name)).2) ∧
    (∀ c n, Props.C12.RetEq (Spec.Tracker.step A (.isOn c n)).2 (Spec.Tracker.step B (.isOn c n)).2) ∧
    Props.C12.RetEq (Spec.Tracker.step A .me).2 (Spec.Tracker.step B .me).2 := by
  have hp : A.mem.Perm B.mem := AL.perm_of_lookup_eq na nb h.mem
  have hns : ∀ name, Props.C12.NickSnapEq (Spec.Tracker.nickSnap A name) (Spec.Tracker.nickSnap B name) := by
    intro name
    simp only [Props.C12.NickSnapEq, Spec.Tracker.nickSnap, h.nicks name, true_and]
    exact (hp.filter _).map _
  have hcs : ∀ name, Props.C12.ChanSnapEq (Spec.Tracker.chanSnap A name) (Spec.Tracker.chanSnap B name) := by
    intro name
    simp only [Props.C12.ChanSnapEq, Spec.Tracker.chanSnap, h.chans name, true_and]
    exact (hp.filter _).map _
  refine ⟨?_, ?_, ?_, ?_⟩
  · intro name
    simp only [Spec.Tracker.step, h.has_nicks name]
    split
    · exact hns name
    · trivial
  · intro name
    simp only [Spec.Tracker.step, h.has_chans name]
    split
    · exact hcs name
    · trivial
  · intro c n
    simp only [Spec.Tracker.step, h.has_nicks n, h.has_chans c, h.mem (c, n)]
    split
    · split <;> simp [Props.C12.RetEq]
    · simp [Props.C12.RetEq]
  · simp only [Spec.Tracker.step, h.me]
    exact hns _

theorem Holds_of {st : St} {S V : TS} (r : R st S) (h : Eqv S V) (nv : (AL.keys V.mem).Nodup) : Holds st V := by
  obtain ⟨q1, q2, q3, q4⟩ := query_eqv h r.2.mem_nodup nv
  refine ⟨?_, ?_, ?_, ?_⟩
  · intro name
    exact RetEq_trans (step_sim r (.getNick name)).2 (q1 name)
  · intro name
    exact RetEq_trans (step_sim r (.getChannel name)).2 (q2 name)
  · intro c n
    exact RetEq_trans (step_sim r (.isOn c n)).2 (q3 c n)
  · exact RetEq_trans (step_sim r .me).2 q4

def startClient (me ident host real : Bytes) (ext : UnicodeExt) : Client :=
  let c : Client := { cfg := { meNick := me, meIdent := ident, meName := real }, newNick := defaultNewNick, ext := ext }
  feed (enableTracking c) [lit ":irc.test 001 " ++ me ++ lit " :Welcome " ++ me ++ [33] ++ ident ++ [64] ++ host]

theorem lastWord_append_cons (s t : Bytes) (h : (32 : UInt8) ∉ t) : lastWord (s ++ 32 :: t) = t := by
  simp only [lastWord, Go.lastIndexByte_append_cons 32 s t h]
  rw [show s ++ 32 :: t = (s ++ [32]) ++ t by simp, show s.length + 1 = (s ++ [32]).length by simp, List.drop_left]

theorem start_related (me ident host real : Bytes) (ext : UnicodeExt) (others : List (Bytes × NUser))
    (hm : nameOk me = true) (hi : nameOk ident = true) (hh : nameOk host = true) :
    ∃ S, CRx ext defaultNewNick (startClient me ident host real ext) S ∧
      Eqv S (start me ident host real others).view := by
  let c0 : Client := { cfg := { meNick := me, meIdent := ident, meName := real }, newNick := defaultNewNick, ext := ext }
  have h0 : CRx ext defaultNewNick (enableTracking c0) (sx (Spec.Tracker.new me) (.nickInfo me ident [] real)) :=
    CRx_enable c0 rfl
  have h1 := CRx_feed h0 [lit ":irc.test 001 " ++ me ++ lit " :Welcome " ++ me ++ [33] ++ ident ++ [64] ++ host]
  refine ⟨_, h1, ?_⟩
  obtain ⟨L, -, -, -, hcmd, hargs, hf⟩ := (parse_001 ext me ident host hm).feed defaultNewNick
    (sx (Spec.Tracker.new me) (.nickInfo me ident [] real)) []
  have htext : L.text = lit "Welcome " ++ me ++ [33] ++ ident ++ [64] ++ host := by
    simp [Line.text, hargs]
  have htarget : L.target = me := by
    rw [Line.target_of_other L (by rw [hcmd]; decide +kernel), hargs]; rfl
  have hlast : lastWord L.text = me ++ [33] ++ ident ++ [64] ++ host := by
    have hnm : (32 : UInt8) ∉ me ++ [33] ++ ident ++ [64] ++ host := by
      simp only [List.mem_append, List.mem_singleton, not_or]
      exact ⟨⟨⟨⟨nameOk_no32 _ hm, by decide⟩, nameOk_no32 _ hi⟩, by decide⟩, nameOk_no32 _ hh⟩
    have e : lit "Welcome " ++ me ++ [33] ++ ident ++ [64] ++ host
        = lit "Welcome" ++ 32 :: (me ++ [33] ++ ident ++ [64] ++ host) := by
      rw [show lit "Welcome " = lit "Welcome" ++ [32] by decide]; simp
    rw [htext, e, lastWord_append_cons _ _ hnm]
  have huh : parseUserHost (lastWord L.text) = some (me, ident, host) := by
    rw [hlast]
    have := Go.parseUserHost_user me ident host (user_wf me ident host hm hi hh)
    simpa [Spec.Irc.Source.render] using this
  rw [hf, tDispatch_001 ext _ _ hcmd]
  simp only [tFeed]
  have hS : t_001 (sx (Spec.Tracker.new me) (.nickInfo me ident [] real)) L = (start me ident host real others).view := by
    simp only [t_001, huh, htarget]
    simp [sx, Spec.Tracker.step, Spec.Tracker.new, AL.lookup, AL.insert, AL.has, meName, start]
  rw [hS]
  exact Eqv.refl _

theorem session_core (me ident host real : Bytes) (others : List (Bytes × NUser)) (ext : UnicodeExt) (evs : List Event)
    (hme : nickOk me = true ∧ nameOk ident = true ∧ nameOk host = true ∧ textOk real = true)
    (hothers : ∀ u ∈ others, nickOk u.1 = true ∧ nameOk u.2.ident = true ∧ nameOk u.2.host = true ∧ textOk u.2.real = true)
    (hevs : ∀ e ∈ evs, evOk e) :
    ∃ st, (runNet (start me ident host real others) (startClient me ident host real ext) evs).2.st = some st ∧
      Holds st (runNet (start me ident host real others) (startClient me ident host real ext) evs).1.view := by
  have hm := nameOk_of_nickOk hme.1
  obtain ⟨S0, hc0, he0⟩ := start_related me ident host real ext others hm hme.2.1 hme.2.2.1
  obtain ⟨S', hc, he, hi⟩ := session_ind ext defaultNewNick evs _ _ S0 (NetInv_start me ident host real others hme hothers) hc0 he0 hevs
  obtain ⟨st, hst, r⟩ := hc.2.2
  exact ⟨st, hst, Holds_of r he hi.view_mem_nodup⟩

end Proofs.C13
