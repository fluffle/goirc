import Goirc.Go.Strings
/-!
# Searching and cutting at a separator byte

`indexByte`, `splitByte` and `join` are core's `List.idxOf?`, `List.splitOnPPrepend` and `List.intercalate` (`indexByte_eq`,
`splitByte_eq`, `join_eq_intercalate`); from that, what searching and cutting do on `a ++ c :: b` when `c` does not occur in `a`.
-/
namespace Go

theorem indexByteFrom_eq (c : UInt8) (s : Bytes) (i : Nat) : indexByteFrom c s i = (s.idxOf? c).map (· + i) := by
  induction s generalizing i with
  | nil => rfl
  | cons x s ih =>
    rw [indexByteFrom, List.idxOf?_cons, ih]
    split
    · simp
    · simp [Option.map_map, Function.comp_def, Nat.add_comm, Nat.add_left_comm]

theorem indexByte_eq (s : Bytes) (c : UInt8) : indexByte s c = s.idxOf? c := by
  simp [indexByte, indexByteFrom_eq]

theorem indexByte_eq_some_iff (s : Bytes) (c : UInt8) (i : Nat) :
    indexByte s c = some i ↔ ∃ h : i < s.length, s[i] = c ∧ ∀ j (_ : j < i), ¬ s[j] = c := by
  rw [indexByte_eq]; exact List.idxOf?_eq_some_iff

theorem indexByteFrom_none (c : UInt8) (s : Bytes) (i : Nat) (h : c ∉ s) : indexByteFrom c s i = none := by
  rw [indexByteFrom_eq, List.idxOf?_eq_none_iff.2 h]; rfl

theorem indexByte_some (c : UInt8) (s : Bytes) (j : Nat) (h : indexByte s c = some j) :
    c ∉ s.take j ∧ s = s.take j ++ c :: s.drop (j + 1) := by
  obtain ⟨hj, rfl, hlt⟩ := (indexByte_eq_some_iff s c j).1 h
  refine ⟨fun hm => ?_, by rw [← List.drop_eq_getElem_cons hj, List.take_append_drop]⟩
  obtain ⟨k, hk, e⟩ := List.mem_take_iff_getElem.1 hm
  exact hlt k (by omega) e

theorem indexByte_lt (s : Bytes) (c : UInt8) (i : Nat) (h : indexByte s c = some i) : i < s.length :=
  ((indexByte_eq_some_iff s c i).1 h).1

theorem indexByte_append (c : UInt8) (a b : Bytes) (h : c ∉ a) :
    indexByte (a ++ c :: b) c = some a.length := by
  refine (indexByte_eq_some_iff _ c _).2 ⟨by simp, by simp, fun j hj e => h ?_⟩
  rw [List.getElem_append_left hj] at e
  exact e ▸ List.getElem_mem hj

/-- `s[1:i]` and `s[i+1:]` are in range when `i` is where `c` was found and `s` does not start with `c` -/
theorem indexByte_cons_bounds (x c : UInt8) (s : Bytes) (i : Nat) (hx : x ≠ c)
    (h : indexByte (x :: s) c = some i) : 1 ≤ i ∧ i < (x :: s).length := by
  refine ⟨?_, indexByte_lt _ _ _ h⟩
  obtain ⟨_, e, _⟩ := (indexByte_eq_some_iff _ c i).1 h
  cases i with
  | zero => exact absurd e hx
  | succ i => omega

theorem indexByte_ne (s : Bytes) (a b : UInt8) (i j : Nat) (ha : indexByte s a = some i) (hb : indexByte s b = some j)
    (hab : a ≠ b) : i ≠ j := by
  rintro rfl
  obtain ⟨_, ea, _⟩ := (indexByte_eq_some_iff s a i).1 ha
  obtain ⟨_, eb, _⟩ := (indexByte_eq_some_iff s b i).1 hb
  exact hab (ea.symm.trans eb)

theorem indexFrom_single (c : UInt8) (s : Bytes) (k : Nat) : indexFrom [c] s k = indexByteFrom c s k := by
  induction s generalizing k with
  | nil => simp [indexFrom, indexByteFrom]
  | cons x s ih => simp [indexFrom, indexByteFrom, hasPrefix, ih]

theorem index_single (s : Bytes) (c : UInt8) : index s [c] = indexByte s c :=
  indexFrom_single c s 0

theorem hasPrefix_single (x c : UInt8) (s : Bytes) : hasPrefix (x :: s) [c] = (x == c) := by
  cases s <;> simp [hasPrefix]

theorem index_cons_single (x c : UInt8) (s : Bytes) :
    index (x :: s) [c] = if x == c then some 0 else (index s [c]).map (· + 1) := by
  rw [index_single, index_single, indexByte_eq, indexByte_eq, List.idxOf?_cons]

theorem cut_append_single (c : UInt8) (a b : Bytes) (h : c ∉ a) :
    cut (a ++ c :: b) [c] = (a, some b) := by
  simp [cut, index_single, indexByte_append c a b h]

theorem cut_not_mem_single (c : UInt8) (a : Bytes) (h : c ∉ a) :
    cut a [c] = (a, none) := by
  simp [cut, index_single, indexByte, indexByteFrom_none c a 0 h]

theorem cut_nil_single (c : UInt8) : cut [] [c] = ([], none) :=
  cut_not_mem_single c [] List.not_mem_nil

theorem cut_cons_single (x c : UInt8) (s : Bytes) :
    cut (x :: s) [c] = if x == c then ([], some s) else ((x :: (cut s [c]).1), (cut s [c]).2) := by
  unfold cut
  rw [index_cons_single]
  by_cases h : (x == c) = true
  · simp [h]
  · simp only [h]
    cases index s [c] <;> simp

/-- `strings.SplitN(s, c, 2)[0]` -/
theorem cut_single_fst (c : UInt8) (s : Bytes) : (cut s [c]).1 = beforeByte c s := by
  induction s with
  | nil => rw [cut_nil_single]; rfl
  | cons x s ih => rw [cut_cons_single, beforeByte]; split <;> simp [ih]

theorem splitByte_eq (c : UInt8) (acc s : Bytes) : splitByte c acc s = List.splitOnPPrepend (· == c) s acc := by
  induction s generalizing acc with
  | nil => rfl
  | cons b s ih => rw [splitByte, List.splitOnPPrepend_cons_eq_if, ih, ih]; rfl

theorem splitByte_nil (c : UInt8) (s : Bytes) : splitByte c [] s = s.splitOnP (· == c) := splitByte_eq c [] s

theorem join_eq_intercalate (sep : Bytes) (l : List Bytes) : join sep l = sep.intercalate l := by
  induction l with
  | nil => rfl
  | cons p ps ih => cases ps with
    | nil => simp [join, List.intercalate]
    | cons q qs => simp [join, ih, List.intercalate]

theorem join_snoc (sep : Bytes) {g : List Bytes} (hg : g ≠ []) (a : Bytes) :
    join sep (g ++ [a]) = join sep g ++ sep ++ a := by
  induction g with
  | nil => contradiction
  | cons x g ih =>
    cases g with
    | nil => rfl
    | cons y g => simp only [List.cons_append, join, List.append_assoc] at ih ⊢; rw [ih (by simp)]

theorem splitByte_join (c : UInt8) (t : Bytes) (ts : List Bytes) (h : ∀ t' ∈ t :: ts, c ∉ t') :
    splitByte c [] (join [c] (t :: ts)) = t :: ts := by
  rw [join_eq_intercalate, splitByte_eq]
  exact List.splitOn_intercalate c h (by simp)

theorem join_not_mem (c s : UInt8) (ts : List Bytes) (h : ∀ t ∈ ts, c ∉ t) (hs : c ≠ s) : c ∉ join [s] ts := by
  induction ts with
  | nil => simp [join]
  | cons t ts ih =>
    cases ts with
    | nil => simpa [join] using h t (by simp)
    | cons t' ts =>
      simp only [join, List.append_assoc, List.singleton_append, List.mem_append, List.mem_cons, not_or]
      exact ⟨h t (by simp), hs, ih (fun x hx => h x (by simp [hx]))⟩

theorem lastIndexByte_go_append (c : UInt8) (s t : Bytes) (i : Nat) (acc : Option Nat) :
    lastIndexByte.go c (s ++ t) i acc = lastIndexByte.go c t (i + s.length) (lastIndexByte.go c s i acc) := by
  induction s generalizing i acc with
  | nil => simp [lastIndexByte.go]
  | cons x s ih =>
    simp only [List.cons_append, lastIndexByte.go, ih, List.length_cons]
    congr 1; omega

theorem lastIndexByte_go_not_mem (c : UInt8) (s : Bytes) (i : Nat) (acc : Option Nat) (h : c ∉ s) :
    lastIndexByte.go c s i acc = acc := by
  induction s generalizing i acc with
  | nil => simp [lastIndexByte.go]
  | cons x s ih =>
    have hx : (x == c) = false := beq_false_of_ne (List.ne_of_not_mem_cons h).symm
    simp [lastIndexByte.go, hx, ih _ _ (List.not_mem_of_not_mem_cons h)]

theorem lastIndexByte_go_bound (c : UInt8) (s : Bytes) (i : Nat) (acc : Option Nat) (j : Nat)
    (h : lastIndexByte.go c s i acc = some j) : acc = some j ∨ (i ≤ j ∧ j < i + s.length) := by
  induction s generalizing i acc with
  | nil => simp [lastIndexByte.go] at h; exact Or.inl h
  | cons x s ih =>
    simp only [lastIndexByte.go] at h
    rcases ih _ _ h with h' | h'
    · split at h'
      · simp only [Option.some.injEq] at h'; subst h'
        right; simp
      · exact Or.inl h'
    · right; simp only [List.length_cons]; omega

theorem lastIndexByte_not_mem (c : UInt8) (s : Bytes) (h : c ∉ s) : lastIndexByte s c = none :=
  lastIndexByte_go_not_mem c s 0 none h

theorem lastIndexByte_lt (c : UInt8) (s : Bytes) (j : Nat) (h : lastIndexByte s c = some j) : j < s.length := by
  rcases lastIndexByte_go_bound c s 0 none j h with h' | h'
  · cases h'
  · omega

theorem lastIndexByte_append_cons (c : UInt8) (s t : Bytes) (h : c ∉ t) :
    lastIndexByte (s ++ c :: t) c = some s.length := by
  unfold lastIndexByte
  rw [lastIndexByte_go_append]
  simp [lastIndexByte.go, lastIndexByte_go_not_mem c t _ _ h]

theorem lastIndexByte_append_not_mem (c : UInt8) (s t : Bytes) (h : c ∉ t) :
    lastIndexByte (s ++ t) c = lastIndexByte s c := by
  unfold lastIndexByte
  rw [lastIndexByte_go_append, lastIndexByte_go_not_mem c t _ _ h]

end Go
