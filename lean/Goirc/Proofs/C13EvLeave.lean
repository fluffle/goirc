import Goirc.Proofs.C13Ops
import Goirc.Proofs.C13Parse
import Goirc.Proofs.C13InvAuxGround
/-!
# C13: PART, KICK and QUIT bring the relational state to the new view
-/
namespace Proofs.C13
open Go Go.Client Go.Tracker Spec.Tracker Spec.Net

theorem ev_part (ext : UnicodeExt) (nn : Bytes → Bytes) (n : Net) (u c : Bytes) (hi : NetInv n)
    (hc : conforms n (.part u c) = true) :
    Eqv (tFeed ext nn n.view (serverStep n (.part u c)).2) (serverStep n (.part u c)).1.view := by
  simp only [conforms] at hc
  simp only [serverStep]
  cases hv : onChan n n.me c with
  | false =>
    simp only [Bool.false_eq_true, if_false, tFeed, leave_view]
    exact Eqv.refl _
  | true =>
    simp only [if_true, leave_view]
    obtain ⟨-, hcn, x, hx⟩ := hi.member hc
    obtain ⟨h1, h2, h3, hm⟩ := hi.user hx
    obtain ⟨L, hn, -, -, hcmd, ha, hf⟩ := (parse_PART ext u x.ident x.host h1 h2 h3 c hcn).feed nn n.view []
    rw [hm, hf, tDispatch_PART ext nn _ hcmd]
    simp only [tFeed, t_PART, arg, ha, hn, List.getElem?_cons_zero]
    rw [sx_dissociate_eq_viewLeave _ _ _ (hi.vinv.guards hv hc)]
    exact Eqv.refl _

theorem ev_kick (ext : UnicodeExt) (nn : Bytes → Bytes) (n : Net) (k c v : Bytes) (hi : NetInv n)
    (hc : conforms n (.kick k c v) = true) :
    Eqv (tFeed ext nn n.view (serverStep n (.kick k c v)).2) (serverStep n (.kick k c v)).1.view := by
  simp only [conforms, Bool.and_eq_true] at hc
  simp only [serverStep]
  cases hv : onChan n n.me c with
  | false =>
    simp only [Bool.false_eq_true, if_false, tFeed, leave_view]
    exact Eqv.refl _
  | true =>
    simp only [if_true, leave_view]
    obtain ⟨-, hcn, x, hx⟩ := hi.member hc.1
    obtain ⟨h1, h2, h3, hm⟩ := hi.user hx
    obtain ⟨-, -, y, hy⟩ := hi.member hc.2
    obtain ⟨L, -, -, -, hcmd, ha, hf⟩ :=
      (parse_KICK ext k x.ident x.host h1 h2 h3 c v hcn (hi.user hy).1).feed nn n.view []
    rw [hm, hf, tDispatch_KICK ext nn _ hcmd]
    simp only [tFeed, t_KICK, arg, ha, List.getElem?_cons_zero, List.getElem?_cons_succ]
    rw [sx_dissociate_eq_viewLeave _ _ _ (hi.vinv.guards hv hc.2)]
    exact Eqv.refl _

theorem ev_quit (ext : UnicodeExt) (nn : Bytes → Bytes) (n : Net) (u : Bytes) (hi : NetInv n)
    (hc : conforms n (.quit u) = true) :
    Eqv (tFeed ext nn n.view (serverStep n (.quit u)).2) (serverStep n (.quit u)).1.view := by
  simp only [conforms, Bool.and_eq_true] at hc
  simp only [serverStep]
  obtain ⟨-, -, -, hview, -⟩ := foldl_quitF u (AL.keys n.chans) n hi.ground
  cases hv : sharesWithMe n u with
  | false =>
    simp only [Bool.false_eq_true, if_false, tFeed, hview]
    exact Eqv.refl _
  | true =>
    simp only [if_true, hview]
    obtain ⟨x, hx⟩ := (AL.has_true_iff _ _).1 hc.2
    obtain ⟨h1, h2, h3, hm⟩ := hi.user hx
    obtain ⟨L, hn, -, -, hcmd, -, hf⟩ := (parse_QUIT ext u x.ident x.host h1 h2 h3).feed nn n.view []
    rw [hm, hf, tDispatch_QUIT ext nn _ hcmd]
    have hk : AL.has n.view.nicks u = true := by rw [hi.view_nicks, hv, Bool.or_true]
    have hne : (u == n.view.me) = false := by
      rw [hi.me_view]; simpa [bne] using hc.1
    simp only [tFeed, t_QUIT, hn, sx_delNick, hk, bne, hne, Bool.not_false, Bool.and_self, if_true, dropNick,
      Bool.false_eq_true, if_false]
    exact Eqv.refl _

end Proofs.C13
