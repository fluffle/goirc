import Goirc.Model.Life
import Goirc.Proofs.Life
/-!
# C06: the invariant of the life-cycle LTS over the skeleton `(mu, connected, cur, thr, log)`

`Inv` is kept when a thread moves and the log stays (`inv_thr` and its special cases) and when an event is logged and no
thread moves (`inv_snoc`: which event may come next); a thread that returns to `idle` with an event does the one after the
other, the three moves in which thread and log (or flag) must change together have a lemma each. `invS_move` puts them
together by cases on `Proofs.Life.Move` (`invS_reach`).
-/
namespace Proofs.C06
open Go.Life Proofs.Life

def cnt (p : Ev → Bool) (l : List Ev) : Nat := (l.filter p).length

theorem cnt_eq_countP (p : Ev → Bool) (l : List Ev) : cnt p l = l.countP p := List.countP_eq_length_filter.symm

theorem cnt_snoc (p : Ev → Bool) (l : List Ev) (e : Ev) :
    cnt p (l ++ [e]) = cnt p l + (if p e then 1 else 0) := by
  simp only [cnt_eq_countP, List.countP_append, List.countP_singleton]

theorem cnt_eq_zero {p : Ev → Bool} {l : List Ev} (h : ∀ e ∈ l, p e = false) : cnt p l = 0 := by
  rw [cnt_eq_countP, List.countP_eq_zero]
  exact fun a ha => Bool.eq_false_iff.1 (h a ha)

theorem cnt_pos_of_mem {p : Ev → Bool} {l : List Ev} {e : Ev} (he : e ∈ l) (hp : p e = true) : 1 ≤ cnt p l := by
  rw [cnt_eq_countP]
  exact List.countP_pos_iff.2 ⟨e, he, hp⟩

theorem cnt_snoc_le_one {p : Ev → Bool} {l : List Ev} {e : Ev} (h : cnt p l ≤ 1)
    (h0 : p e = true → ∀ x ∈ l, p x = false) : cnt p (l ++ [e]) ≤ 1 := by
  rw [cnt_snoc]
  split
  · rw [cnt_eq_zero (h0 ‹_›)]; exact Nat.le_refl 1
  · exact h

def isReg (g : Gen) : Ev → Bool
  | .register g' _ => g' = g
  | _ => false

def isDisc (g : Gen) : Ev → Bool
  | .disconnected g' _ _ => g' = g
  | _ => false

def isOk (g : Gen) : Ev → Bool := fun e => e = .connectOk g

theorem isReg_iff {g : Gen} {e : Ev} : isReg g e = true ↔ ∃ f, e = .register g f := by
  cases e <;> simp [isReg, eq_comm]

theorem isDisc_iff {g : Gen} {e : Ev} : isDisc g e = true ↔ ∃ f k, e = .disconnected g f k := by
  cases e <;> simp [isDisc, eq_comm]

theorem isReg_false_of {g : Gen} {l : List Ev} (h : ∀ f, Ev.register g f ∉ l) : ∀ e ∈ l, isReg g e = false := by
  refine fun e he => Bool.eq_false_iff.2 fun hp => ?_
  obtain ⟨f, rfl⟩ := isReg_iff.1 hp
  exact h f he

theorem isDisc_false_of {g : Gen} {l : List Ev} (h : ∀ f k, Ev.disconnected g f k ∉ l) : ∀ e ∈ l, isDisc g e = false := by
  refine fun e he => Bool.eq_false_iff.2 fun hp => ?_
  obtain ⟨f, k, rfl⟩ := isDisc_iff.1 hp
  exact h f k he

theorem isOk_false_of {g : Gen} {l : List Ev} (h : Ev.connectOk g ∉ l) : ∀ e ∈ l, isOk g e = false := by
  intro e he
  simp [isOk]
  intro e'; subst e'; exact h he

/-- `Go.Life.setThr` on the thread map alone (`setThr_eq`) -/
def upd (thr : Tid → TPc) (t : Tid) (p : TPc) : Tid → TPc := fun u => if u = t then p else thr u

@[grind =] theorem upd_apply (thr : Tid → TPc) (t : Tid) (p : TPc) (u : Tid) :
    upd thr t p u = if u = t then p else thr u := rfl

theorem mem_snoc {l : List Ev} {x e : Ev} (h : x ∈ l ++ [e]) : x ∈ l ∨ e = x := by
  simpa [eq_comm] using h

theorem upd_role {P : TPc → Prop} {thr : Tid → TPc} {t : Tid} {p : TPc} (hp : P p → P (thr t)) (u : Tid)
    (hu : P (upd thr t p u)) : P (thr u) := by
  unfold upd at hu
  split at hu
  · subst_vars; exact hp hu
  · exact hu

/-- A generation `g` exists when `1 ≤ g ≤ cur`; per generation one thread connects (`cRegister g`, then `cRet g`) and at most
one closes (`xDrain g`, then `xFire g`). -/
structure Inv (mu : Option Tid) (c : Bool) (cur : Gen) (thr : Tid → TPc) (log : List Ev) : Prop where
  /-- the recorded holder of the mutex is the thread in a locked phase of Connect or closeFor, so there is at most one -/
  holder : ∀ t, mu = some t ↔ (thr t = .cLocked ∨ (∃ tg, thr t = .xLocked tg) ∨ (∃ g, thr t = .xDrain g))
  /-- a drainer drains the current generation, with the flag clear -/
  drainCur : ∀ t g, thr t = .xDrain g → g = cur ∧ c = false
  /-- while the flag is set the current generation exists and nobody has passed its test-and-clear -/
  connT : c = true → 1 ≤ cur ∧ Ev.tested cur ∉ log
  /-- only generations that exist have been tested -/
  testedLe : ∀ g, Ev.tested g ∈ log → 1 ≤ g ∧ g ≤ cur
  /-- every generation has been tested, the current one while it is up excepted: a new one is made only after that -/
  testedAll : ∀ g, 1 ≤ g → g ≤ cur → (g = cur ∧ c = true) ∨ Ev.tested g ∈ log
  /-- a thread past the test-and-clear of `g`: `tested g` is logged, DISCONNECTED for `g` is not yet -/
  closer : ∀ t g, (thr t = .xDrain g ∨ thr t = .xFire g) → Ev.tested g ∈ log ∧ ∀ f k, Ev.disconnected g f k ∉ log
  /-- at most one thread is past the test-and-clear of a generation: why DISCONNECTED is dispatched once -/
  closerUniq : ∀ t u g, (thr t = .xDrain g ∨ thr t = .xFire g) → (thr u = .xDrain g ∨ thr u = .xFire g) → t = u
  discCnt : ∀ g, cnt (isDisc g) log ≤ 1
  /-- DISCONNECTED for `g` comes after `tested g`, and samples the flag set only when a later generation is up -/
  discFlag : ∀ g f k, Ev.disconnected g f k ∈ log → Ev.tested g ∈ log ∧ g ≤ k ∧ (f = true → g < k)
  /-- a thread between `postConnect` and its return works for a generation that exists and has not returned yet -/
  connr : ∀ t g, (thr t = .cRegister g ∨ thr t = .cRet g) → 1 ≤ g ∧ g ≤ cur ∧ Ev.connectOk g ∉ log
  /-- at most one such thread per generation: why REGISTER is dispatched once and Connect returns once -/
  connrUniq : ∀ t u g, (thr t = .cRegister g ∨ thr t = .cRet g) → (thr u = .cRegister g ∨ thr u = .cRet g) → t = u
  /-- the thread about to dispatch REGISTER has not done so -/
  regNone : ∀ t g, thr t = .cRegister g → ∀ f, Ev.register g f ∉ log
  /-- the thread about to return has -/
  retReg : ∀ t g, thr t = .cRet g → ∃ f, Ev.register g f ∈ log
  regCnt : ∀ g, cnt (isReg g) log ≤ 1
  regLe : ∀ g f, Ev.register g f ∈ log → 1 ≤ g ∧ g ≤ cur
  /-- REGISTER handlers that sampled the flag clear: the teardown of that generation had begun -/
  regFlag : ∀ g, Ev.register g false ∈ log → Ev.tested g ∈ log
  okCnt : ∀ g, cnt (isOk g) log ≤ 1
  /-- a Connect that has returned had dispatched REGISTER -/
  okReg : ∀ g, Ev.connectOk g ∈ log → ∃ f, Ev.register g f ∈ log
  /-- every generation that exists has its REGISTER in the log or a thread about to dispatch it -/
  regAll : ∀ g, 1 ≤ g → g ≤ cur → (∃ f, Ev.register g f ∈ log) ∨ ∃ t, thr t = .cRegister g

/-- the program counters of which `Inv` says only, through `holder`, that they do not hold the mutex -/
def neutral (p : TPc) : Prop := p = .idle ∨ p = .cWant ∨ ∃ tg, p = .xWant tg

theorem inv_init : Inv none false 0 (fun _ => .idle) [] := by
  constructor <;> simp [cnt]
  all_goals grind

theorem regAll_upd {cur : Gen} {thr : Tid → TPc} {log log' : List Ev} {t : Tid} {p : TPc}
    (hl : ∀ e ∈ log, e ∈ log')
    (h : ∀ g : Gen, 1 ≤ g → g ≤ cur → (∃ f, Ev.register g f ∈ log) ∨ ∃ t, thr t = .cRegister g)
    (ht : ∀ g, thr t ≠ .cRegister g) :
    ∀ g : Gen, 1 ≤ g → g ≤ cur → (∃ f, Ev.register g f ∈ log') ∨ ∃ u, upd thr t p u = .cRegister g := by
  intro g hg1 hg2
  rcases h g hg1 hg2 with ⟨f, h'⟩ | ⟨u, hu⟩
  · exact Or.inl ⟨f, hl _ h'⟩
  · exact Or.inr ⟨u, by grind⟩

/-- A thread moves; flag, generation and log stay. `holder` is the caller's business; every other field asks only that the new
program counter is a drainer's, a closer's, one about to REGISTER or one about to return only if the old one was, for the
same generation. -/
theorem inv_thr {mu mu' c cur thr log} (h : Inv mu c cur thr log) (t : Tid) (p : TPc)
    (hh : ∀ u, mu' = some u ↔
      (upd thr t p u = .cLocked ∨ (∃ tg, upd thr t p u = .xLocked tg) ∨ ∃ g, upd thr t p u = .xDrain g))
    (hd : ∀ g, p = .xDrain g → thr t = .xDrain g)
    (hx : ∀ g, p = .xFire g → thr t = .xDrain g ∨ thr t = .xFire g)
    (hr : ∀ g, p = .cRegister g → thr t = .cRegister g)
    (hq : ∀ g, p = .cRet g → thr t = .cRet g)
    (ha : ∀ g, thr t ≠ .cRegister g) :
    Inv mu' c cur (upd thr t p) log :=
  have hc g u (hu : upd thr t p u = .xDrain g ∨ upd thr t p u = .xFire g) : thr u = .xDrain g ∨ thr u = .xFire g :=
    upd_role (P := fun q => q = .xDrain g ∨ q = .xFire g) (fun e => e.elim (fun e => .inl (hd g e)) (hx g)) u hu
  have hn g u (hu : upd thr t p u = .cRegister g ∨ upd thr t p u = .cRet g) : thr u = .cRegister g ∨ thr u = .cRet g :=
    upd_role (P := fun q => q = .cRegister g ∨ q = .cRet g) (fun e => e.imp (hr g) (hq g)) u hu
  { h with
    holder := hh
    drainCur := fun u g hu => h.drainCur u g (upd_role (P := (· = .xDrain g)) (hd g) u hu)
    closer := fun u g hu => h.closer u g (hc g u hu)
    closerUniq := fun u v g hu hv => h.closerUniq u v g (hc g u hu) (hc g v hv)
    connr := fun u g hu => h.connr u g (hn g u hu)
    connrUniq := fun u v g hu hv => h.connrUniq u v g (hn g u hu) (hn g v hv)
    regNone := fun u g hu => h.regNone u g (upd_role (P := (· = .cRegister g)) (hr g) u hu)
    retReg := fun u g hu => h.retReg u g (upd_role (P := (· = .cRet g)) (hq g) u hu)
    regAll := regAll_upd (fun _ => id) h.regAll ha }

theorem inv_neutral {mu c cur thr log} (h : Inv mu c cur thr log) (t : Tid) (p : TPc)
    (h1 : neutral (thr t)) (h2 : neutral p) : Inv mu c cur (upd thr t p) log := by
  unfold neutral at h1 h2
  exact inv_thr h t p (by have := h.holder; grind) (by grind) (by grind) (by grind) (by grind) (by grind)

theorem inv_lock {c cur thr log} (h : Inv none c cur thr log) (t : Tid) (p : TPc)
    (hp : (thr t = .cWant ∧ p = .cLocked) ∨ ∃ tg, thr t = .xWant tg ∧ p = .xLocked tg) :
    Inv (some t) c cur (upd thr t p) log :=
  inv_thr h t p (by have := h.holder; grind) (by grind) (by grind) (by grind) (by grind) (by grind)

theorem inv_unlock {mu c cur thr log} (h : Inv mu c cur thr log) (t : Tid)
    (hp : thr t = .cLocked ∨ ∃ tg, thr t = .xLocked tg) :
    Inv none c cur (upd thr t .idle) log :=
  inv_thr h t _ (by have := h.holder; grind) nofun nofun nofun nofun (by grind)

/-- An event is logged and no thread moves: not `register` or `tested`, which come with the move of the thread that does it. -/
theorem inv_snoc {mu c cur thr log} (h : Inv mu c cur thr log) (e : Ev)
    (hreg : ∀ g f, e ≠ .register g f) (htest : ∀ g, e ≠ .tested g)
    (hok : ∀ g, e = .connectOk g → (∃ f, Ev.register g f ∈ log) ∧ Ev.connectOk g ∉ log ∧
      ∀ u, thr u ≠ .cRegister g ∧ thr u ≠ .cRet g)
    (hdisc : ∀ g f k, e = .disconnected g f k → f = c ∧ k = cur ∧ Ev.tested g ∈ log ∧
      (∀ f k, Ev.disconnected g f k ∉ log) ∧ ∀ u, thr u ≠ .xDrain g ∧ thr u ≠ .xFire g) :
    Inv mu c cur thr (log ++ [e]) := by
  have mT g : Ev.tested g ∈ log ++ [e] ↔ Ev.tested g ∈ log := by simp [(htest g).symm]
  have mR g f : Ev.register g f ∈ log ++ [e] ↔ Ev.register g f ∈ log := by simp [(hreg g f).symm]
  exact
  { h with
    connT := by simpa only [mT] using h.connT
    testedLe := by simpa only [mT] using h.testedLe
    testedAll := by simpa only [mT] using h.testedAll
    -- an entry about `g` in the longer log is an old one, or `e` itself, and then no thread is closing `g`
    closer := fun t g ht => ⟨(mT g).2 (h.closer t g ht).1, fun f k hm => (mem_snoc hm).elim ((h.closer t g ht).2 f k)
      fun he => ht.elim ((hdisc g f k he).2.2.2.2 t).1 ((hdisc g f k he).2.2.2.2 t).2⟩
    discCnt := by
      refine fun g => cnt_snoc_le_one (h.discCnt g) fun he => ?_
      obtain ⟨f, k, rfl⟩ := isDisc_iff.1 he
      exact isDisc_false_of (hdisc g f k rfl).2.2.2.1
    discFlag := fun g f k hm => by
      rw [mT]
      rcases mem_snoc hm with hm | he
      · exact h.discFlag g f k hm
      -- `e` samples the flag and the generation as they are: `g ≤ cur` as `g` was tested, `g ≠ cur` while the flag is set
      · obtain ⟨rfl, rfl, ht, -⟩ := hdisc g f k he
        refine ⟨ht, (h.testedLe g ht).2, fun hc => Nat.lt_of_le_of_ne (h.testedLe g ht).2 fun e => ?_⟩
        exact (h.connT hc).2 (e ▸ ht)
    connr := fun t g ht => ⟨(h.connr t g ht).1, (h.connr t g ht).2.1, fun hm => (mem_snoc hm).elim (h.connr t g ht).2.2
      fun he => ht.elim ((hok g he).2.2 t).1 ((hok g he).2.2 t).2⟩
    regNone := by simpa only [mR] using h.regNone
    retReg := by simpa only [mR] using h.retReg
    regCnt := by
      refine fun g => cnt_snoc_le_one (h.regCnt g) fun he => ?_
      obtain ⟨f, rfl⟩ := isReg_iff.1 he
      exact absurd rfl (hreg g f)
    regLe := by simpa only [mR] using h.regLe
    regFlag := by simpa only [mT, mR] using h.regFlag
    okCnt := by
      refine fun g => cnt_snoc_le_one (h.okCnt g) fun he => ?_
      obtain rfl : e = .connectOk g := by simpa [isOk] using he
      exact isOk_false_of (hok _ rfl).2.1
    okReg := fun g hm => (mem_snoc hm).elim (fun hm => (h.okReg g hm).imp fun f => (mR g f).2)
      fun he => (hok g he).1.imp fun f => (mR g f).2
    regAll := by simpa only [mR] using h.regAll }

theorem inv_cSucceed {mu cur thr log} (h : Inv mu false cur thr log) (t : Tid) (hp : thr t = .cLocked) :
    Inv none true (cur + 1) (upd thr t (.cRegister (cur + 1))) log :=
  { h with
    holder := by have := h.holder; grind
    drainCur := by have := h.holder; have := h.drainCur; grind
    connT := by have := h.testedLe; grind
    testedLe := by have := h.testedLe; grind
    testedAll := by have := h.testedAll; grind
    closer := by have := h.closer; grind
    closerUniq := by have := h.closerUniq; grind
    connr := by have := h.connr; have := h.okReg; have := h.regLe; grind
    connrUniq := by have := h.connr; have := h.connrUniq; grind
    regNone := by have := h.regNone; have := h.regLe; grind
    retReg := by have := h.retReg; grind
    regLe := by have := h.regLe; grind
    regAll := by
      intro g hg1 hg2
      by_cases e : g = cur + 1
      · exact Or.inr ⟨t, by grind⟩
      · rcases h.regAll g hg1 (by grind) with h' | ⟨u, hu⟩
        · exact Or.inl h'
        · exact Or.inr ⟨u, by grind⟩ }

theorem inv_cRegister {mu c cur thr log} (h : Inv mu c cur thr log) (t : Tid) (g : Gen) (hp : thr t = .cRegister g) :
    Inv mu c cur (upd thr t (.cRet g)) (log ++ [.register g c]) :=
  { h with
    holder := by have := h.holder; grind
    drainCur := by have := h.drainCur; grind
    connT := by have := h.connT; grind
    testedLe := by have := h.testedLe; grind
    testedAll := by have := h.testedAll; grind
    closer := by have := h.closer; grind
    closerUniq := by have := h.closerUniq; grind
    discCnt := fun g' => cnt_snoc_le_one (h.discCnt g') nofun
    discFlag := by have := h.discFlag; grind
    connr := by have := h.connr; grind
    connrUniq := by have := h.connrUniq; grind
    regNone := by have := h.regNone; have := h.connrUniq; grind
    retReg := by have := h.retReg; grind
    regCnt := by
      refine fun g' => cnt_snoc_le_one (h.regCnt g') fun e => ?_
      obtain rfl : g = g' := by simpa [isReg] using e
      exact isReg_false_of (h.regNone t g hp)
    regLe := by have := h.regLe; have := h.connr; grind
    regFlag := by have := h.regFlag; have := h.connr; have := h.testedAll; grind
    okCnt := fun g' => cnt_snoc_le_one (h.okCnt g') nofun
    okReg := by have := h.okReg; grind
    regAll := by
      intro g' hg1 hg2
      by_cases e : g' = g
      · exact Or.inl ⟨c, by grind⟩
      · rcases h.regAll g' hg1 hg2 with ⟨f, h'⟩ | ⟨u, hu⟩
        · exact Or.inl ⟨f, by grind⟩
        · exact Or.inr ⟨u, by grind⟩ }

theorem inv_cRet {mu c cur thr log} (h : Inv mu c cur thr log) (t : Tid) (g : Gen) (hp : thr t = .cRet g) :
    Inv mu c cur (upd thr t .idle) (log ++ [.connectOk g]) := by
  refine inv_snoc (inv_thr h t .idle (by have := h.holder; grind) nofun nofun nofun nofun (by grind)) _ nofun nofun ?_ nofun
  rintro _ ⟨⟩
  refine ⟨h.retReg t g hp, (h.connr t g (.inr hp)).2.2, fun u => ?_⟩
  have := h.connrUniq t u g (.inr hp)
  grind

theorem inv_xTest {mu cur thr log} (h : Inv mu true cur thr log) (t : Tid) (tg : Option Gen) (hp : thr t = .xLocked tg) :
    Inv mu false cur (upd thr t (.xDrain cur)) (log ++ [.tested cur]) :=
  { h with
    holder := by have := h.holder; grind
    drainCur := by have := h.holder; have := h.drainCur; grind
    connT := by simp
    testedLe := by have := h.testedLe; have := h.connT; grind
    testedAll := by have := h.testedAll; grind
    closer := by have := h.closer; have := h.discFlag; have := h.connT; grind
    closerUniq := by have := h.closerUniq; have := h.closer; have := h.connT; grind
    discCnt := fun g' => cnt_snoc_le_one (h.discCnt g') nofun
    discFlag := by have := h.discFlag; grind
    connr := by have := h.connr; grind
    connrUniq := by have := h.connrUniq; grind
    regNone := by have := h.regNone; grind
    retReg := by have := h.retReg; grind
    regCnt := fun g' => cnt_snoc_le_one (h.regCnt g') nofun
    regLe := by have := h.regLe; grind
    regFlag := by have := h.regFlag; grind
    okCnt := fun g' => cnt_snoc_le_one (h.okCnt g') nofun
    okReg := by have := h.okReg; grind
    regAll := regAll_upd (fun _ => List.mem_append_left _) h.regAll (by grind) }

theorem inv_xFire {mu c cur thr log} (h : Inv mu c cur thr log) (t : Tid) (g : Gen) (hp : thr t = .xFire g) :
    Inv mu c cur (upd thr t .idle) (log ++ [.disconnected g c cur]) := by
  refine inv_snoc (inv_thr h t .idle (by have := h.holder; grind) nofun nofun nofun nofun (by grind)) _ nofun nofun nofun ?_
  rintro _ _ _ ⟨⟩
  refine ⟨rfl, rfl, (h.closer t g (.inr hp)).1, (h.closer t g (.inr hp)).2, fun u => ?_⟩
  have := h.closerUniq t u g (.inr hp)
  grind

def InvS (s : St) : Prop := Inv s.mu s.connected s.cur s.thr s.log

theorem setThr_eq (s : St) (t : Tid) (p : TPc) : setThr s t p = upd s.thr t p := rfl

theorem neutral_idle : neutral .idle := Or.inl rfl
theorem neutral_cWant : neutral .cWant := Or.inr (Or.inl rfl)
theorem neutral_xWant (tg) : neutral (.xWant tg) := Or.inr (Or.inr ⟨tg, rfl⟩)

theorem invS_move {s s' : St} {l : Label} (h : InvS s) (hm : Move s l s') : InvS s' := by
  unfold InvS at h ⊢
  cases hm with
  | connect t ht => exact inv_neutral h t _ (ht ▸ neutral_idle) neutral_cWant
  | cLock t ht hmu => rw [hmu] at h; exact inv_lock h t _ (.inl ⟨ht, rfl⟩)
  | cRefuse t ht => exact inv_snoc (inv_unlock h t (.inl ht)) _ nofun nofun nofun nofun
  | cSucceed t ping g' ht hc => rw [hc] at h; exact inv_cSucceed h t ht
  | cRegister t g ht => exact inv_cRegister h t g ht
  | cRet t g ht => exact inv_cRet h t g ht
  | xLock t tg ht hmu => rw [hmu] at h; exact inv_lock h t _ (.inr ⟨tg, ht, rfl⟩)
  | xNoop t tg ht => exact inv_snoc (inv_unlock h t (.inr ⟨tg, ht⟩)) _ nofun nofun nofun nofun
  | xBegin t tg ht hc => rw [hc] at h; exact inv_xTest h t tg ht
  | xFinish t g ht => exact inv_thr h t _ (by have := h.holder; grind) nofun (by grind) nofun nofun (by grind)
  | xFire t g ht => exact inv_xFire h t g ht
  | close t ht | watchFire t _ _ ht | stale t _ _ ht | leave _ t _ _ ht =>
    exact inv_neutral h t _ (ht ▸ neutral_idle) (neutral_xWant _)
  | inner => exact h

theorem invS_reach {s : St} (h : Reach s) : InvS s := Reach.inv inv_init invS_move h

end Proofs.C06
