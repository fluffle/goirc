import Goirc.Model.Life
/-!
# The life-cycle LTS seen from its threads: what a step does, the details of `g` aside

Every invariant of C06 / C07 is about the skeleton `(mu, connected, cur, thr, log)`, or says of `g` only what `Keeps`
records. `Move` is `step` read that way, `Move.of_step` the one place where `step` is taken apart label by label for
them; the invariants are then proved by cases on `Move`.

Six functions sort the labels, each with a catch-all arm: `isTeardown` (Model/Life), `inner`, `leaves`, `tidOf` (here),
`isCloser`, `isOwn` (Proofs/C07Cancel). `isOwn` is the only one whose catch-all is `true`; a new label lands in the others'
`false` / `none`, and in the last `all_goals` block of `Move.of_step`, unless it is put where it belongs. One that is in
`isTeardown` also needs a weight in `Proofs.C07.workLeft` for `work_decreases`, and every one a look at `stuck_only_watchdog`.

| isTeardown | inner | leaves | tidOf | isCloser | isOwn | labels |
|------------|-------|--------|-------|----------|-------|--------|
|            |       |        | t     |          |       | connect close stale |
|            |       |        | t     |          | yes   | cLock cSucceed cRegister cRet xFire |
|            |       |        | t     | yes      | yes   | cRefuse xLock xTest watchFire |
| yes        |       |        | t     |          | yes   | xFinish |
| yes        | yes   |        | t     |          | yes   | xDrainIn xDrainOut |
| yes        |       | t      | t     |          | yes   | recvExit loopExit sendFail sendCancel |
| yes        | yes   |        |       |          | yes   | recvTake recvDrop recvPut loopTake hEmit hPut hDone sendTake sendWrote pingTick pingPut pingExit |
|            | yes   |        |       |          |       | srvSend srvEOF writeErr ctxCancel peerStall peerResume |
-/
namespace Proofs.Life
open Go.Life

def WgOk (g : G) : Prop :=
  g.wg = (if g.recv = .gone then 0 else 1) + (if g.send = .gone then 0 else 1) +
         (if g.loop = .gone then 0 else 1) + (if g.ping = .gone ∨ g.ping = .absent then 0 else 1)

/-- What no step of a goroutine, of the drainer emptying a queue or of the environment undoes, and all the invariants ask of
such a step: `wg` is for `Conn.wg`, `closed` and `cancelled` for `Conn.closed`, `watch` for `Conn.wd`. -/
structure Keeps (g g' : G) : Prop where
  wg : WgOk g → WgOk g'
  closed : g.sockClosed = true → g'.sockClosed = true
  cancelled : g.cancelled = true → g'.cancelled = true
  watch : g'.watch = g.watch

/-- the labels that change nothing but `g`: the environment, the goroutines' inner steps, the drainer emptying a queue -/
def inner : Label → Bool
  | .srvSend | .srvEOF | .writeErr | .ctxCancel | .peerStall | .peerResume => true
  | .xDrainIn _ | .xDrainOut _ => true
  | .recvTake | .recvDrop | .recvPut | .loopTake _ | .hEmit | .hPut | .hDone => true
  | .sendTake | .sendWrote | .pingTick | .pingPut | .pingExit => true
  | _ => false

/-- a goroutine of the current connection leaves its loop and goes on, as thread `t`, into `closeFor` -/
def leaves : Label → Option Tid
  | .recvExit t | .loopExit t | .sendFail t | .sendCancel t => some t
  | _ => none

def tidOf : Label → Option Tid
  | .connect t | .cLock t | .cRefuse t | .cSucceed t _ | .cRegister t | .cRet t | .close t | .xLock t | .xTest t
  | .xDrainIn t | .xDrainOut t | .xFinish t | .xFire t | .recvExit t | .loopExit t | .sendFail t | .sendCancel t
  | .watchFire t | .stale t _ => some t
  | _ => none

/-- The moves of an API thread, the watchdog firing and `stale` are the branches of `step` word for word (of the new `g` of
`cSucceed` only what the invariants use; `xTest` has its two outcomes); the four goroutine exits are one constructor, the
labels of `inner` another, both with `g'` left open up to `Keeps`. -/
inductive Move (s : St) : Label → St → Prop
  | connect (t) : s.thr t = .idle → Move s (.connect t) { s with thr := setThr s t .cWant }
  | cLock (t) : s.thr t = .cWant → s.mu = none → Move s (.cLock t) { s with mu := some t, thr := setThr s t .cLocked }
  | cRefuse (t) : s.thr t = .cLocked →
      Move s (.cRefuse t) { s with mu := none, thr := setThr s t .idle, log := s.log ++ [.connectErr] }
  | cSucceed (t ping g') : s.thr t = .cLocked → s.connected = false → WgOk g' → g'.watch = true →
      Move s (.cSucceed t ping) { s with mu := none, connected := true, cur := s.cur + 1, g := g',
                                         thr := setThr s t (.cRegister (s.cur + 1)) }
  | cRegister (t g) : s.thr t = .cRegister g →
      Move s (.cRegister t) { s with thr := setThr s t (.cRet g), log := s.log ++ [.register g s.connected] }
  | cRet (t g) : s.thr t = .cRet g → Move s (.cRet t) { s with thr := setThr s t .idle, log := s.log ++ [.connectOk g] }
  | close (t) : s.thr t = .idle → Move s (.close t) { s with thr := setThr s t (.xWant none) }
  | xLock (t tg) : s.thr t = .xWant tg → s.mu = none →
      Move s (.xLock t) { s with mu := some t, thr := setThr s t (.xLocked tg) }
  | xNoop (t tg) : s.thr t = .xLocked tg → (s.connected = false ∨ ∃ g', tg = some g' ∧ g' ≠ s.cur) →
      Move s (.xTest t) { s with mu := none, thr := setThr s t .idle, log := s.log ++ [.closeNoop tg] }
  | xBegin (t tg) : s.thr t = .xLocked tg → s.connected = true → (∀ g', tg = some g' → g' = s.cur) →
      Move s (.xTest t) { s with connected := false, g := { s.g with sockClosed := true, cancelled := true },
                                 thr := setThr s t (.xDrain s.cur), log := s.log ++ [.tested s.cur] }
  | xFinish (t g) : s.thr t = .xDrain g → s.g.wg = 0 →
      Move s (.xFinish t) { s with mu := none, thr := setThr s t (.xFire g) }
  | xFire (t g) : s.thr t = .xFire g →
      Move s (.xFire t) { s with thr := setThr s t .idle, log := s.log ++ [.disconnected g s.connected s.cur] }
  | watchFire (t) : s.g.watch = true → s.g.cancelled = true → s.thr t = .idle →
      Move s (.watchFire t) { s with g := { s.g with watch := false }, thr := setThr s t (.xWant (some s.cur)) }
  | stale (t g) : g < s.cur → s.thr t = .idle → Move s (.stale t g) { s with thr := setThr s t (.xWant (some g)) }
  | leave (l t g') : leaves l = some t → s.thr t = .idle → Keeps s.g g' →
      Move s l { s with g := g', thr := setThr s t (.xWant (some s.cur)) }
  | inner (l g') : inner l = true → Keeps s.g g' → Move s l { s with g := g' }

theorem Move.of_step {s s' l} (hs : step s l = some s') : Move s l s' := by
  cases l <;> simp only [step] at hs
  case connect t => obtain ⟨h, ⟨⟩⟩ := Option.ite_none_right_eq_some.mp hs; exact .connect t h
  case cLock t => obtain ⟨⟨h, hm⟩, ⟨⟩⟩ := Option.ite_none_right_eq_some.mp hs; exact .cLock t h hm
  case cRefuse t => obtain ⟨h, ⟨⟩⟩ := Option.ite_none_right_eq_some.mp hs; exact .cRefuse t h
  case cSucceed t ping =>
    obtain ⟨⟨h, hc⟩, ⟨⟩⟩ := Option.ite_none_right_eq_some.mp hs
    exact .cSucceed t ping _ h hc (by cases ping <;> simp [WgOk]) rfl
  case cRegister t => split at hs <;> simp at hs; subst hs; exact .cRegister t _ ‹_›
  case cRet t => split at hs <;> simp at hs; subst hs; exact .cRet t _ ‹_›
  case close t => obtain ⟨h, ⟨⟩⟩ := Option.ite_none_right_eq_some.mp hs; exact .close t h
  case xLock t => split at hs <;> simp at hs; obtain ⟨hm, rfl⟩ := hs; exact .xLock t _ ‹_› hm
  case xTest t =>
    split at hs
    · rename_i tg h
      split at hs <;> simp at hs <;> subst hs
      · exact .xNoop t tg h ‹_›
      · rename_i hc
        refine .xBegin t tg h (by simpa using fun e => hc (.inl e)) fun g' e => ?_
        exact Classical.byContradiction fun ne => hc (.inr ⟨g', e, ne⟩)
    · simp at hs
  case xFinish t => split at hs <;> simp at hs; obtain ⟨hw, rfl⟩ := hs; exact .xFinish t _ ‹_› hw
  case xFire t => split at hs <;> simp at hs; subst hs; exact .xFire t _ ‹_›
  case watchFire t => obtain ⟨⟨hw, hx, h⟩, ⟨⟩⟩ := Option.ite_none_right_eq_some.mp hs; exact .watchFire t hw hx h
  case stale t g => obtain ⟨⟨hg, h⟩, ⟨⟩⟩ := Option.ite_none_right_eq_some.mp hs; exact .stale t g hg h
  case recvExit t | loopExit t | sendFail t | sendCancel t =>
    obtain ⟨h, ⟨⟩⟩ := Option.ite_none_right_eq_some.mp hs
    exact .leave _ t _ rfl (by simp [h]) ⟨fun hw => by simp_all [WgOk] <;> omega, id, id, rfl⟩
  -- what is left is `inner`
  all_goals
    (try split at hs) <;> (try split at hs) <;> simp at hs <;> subst hs <;>
    refine .inner _ _ rfl ⟨?_, ?_, ?_, rfl⟩ <;> simp_all [WgOk] <;> omega

theorem Move.other {s s' l} (hm : Move s l s') (u : Tid) (hu : tidOf l ≠ some u) : s'.thr u = s.thr u := by
  cases hm with
  | inner => rfl
  | leave l t g' hl =>
    refine if_neg fun (e : u = t) => hu (e ▸ ?_)
    cases l <;> simp [leaves] at hl <;> exact congrArg some hl
  | _ => exact if_neg fun (e : u = _) => hu (e ▸ rfl)

theorem Reach.inv {P : St → Prop} (init : P {}) (move : ∀ {s l s'}, P s → Move s l s' → P s') {s : St}
    (h : Reach s) : P s := by
  induction h with
  | init => exact init
  | step _ hs ih => exact move ih (Move.of_step hs)

end Proofs.Life
