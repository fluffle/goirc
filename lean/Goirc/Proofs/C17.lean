import Goirc.Spec.NickScript
import Goirc.Proofs.Commands
import Goirc.Proofs.ParseLine
import Goirc.Proofs.Client
/-!
# C17: the client always knows its own current nick

The default generator replaces the last byte by another one (`defaultNewNick_eq`, `nextByte_ne`). `CInv gen ext n c` says that
what the client knows agrees with the nick `n` the server uses (`TInv` is its tracker half: the tracker knows exactly one
nick, `n`, and it is `me`); the 433, 001 and NICK handlers keep it (`h_433_inv`, `h_001_inv`, `nick_inv`). The lines of the
script parse to what they were rendered from (`parse_s433` .. `parse_sOther`), so every event of the script keeps the
invariant (`step_inv`) from a fresh client on (`start_inv`).
-/
def Props.C17.evNames : Spec.NickScript.Ev → List Bytes
  | .s433 r => [r] | .s001 n _ => [n] | .sNick n => [n] | .sOther f t => [f, t]

namespace Go.Client
open Go.Tracker Spec.Irc Spec.NickScript Props.C17

def nextByte (c : UInt8) : UInt8 :=
  if 48 ≤ c ∧ c ≤ 57 then 48 + (((c - 48) + 1) % 10)
  else if 65 ≤ c ∧ c ≤ 125 then 65 + (((c - 65) + 1) % 61)
  else 95

theorem nextByte_ne (c : UInt8) : nextByte c ≠ c :=
  UInt8.forall_of_lt (p := fun c => nextByte c ≠ c) (by decide +kernel) c

theorem defaultNewNick_eq (old : Bytes) (c : UInt8) (h : old.getLast? = some c) :
    defaultNewNick old = old.dropLast ++ [nextByte c] := by
  simp [defaultNewNick, h, nextByte]

def TInv (t : St) (n : Bytes) : Prop :=
  ∃ o, t.nickHeap = [(t.me, o)] ∧ t.nicks = [(n, t.me)] ∧ o.nick = n ∧ o.chans = []

theorem TInv.snap {t : St} {n : Bytes} (h : TInv t n) : (nickSnap t t.me).nick = n := by
  obtain ⟨o, h1, h2, h3, h4⟩ := h
  simp [nickSnap, getN, h1, AL.lookup, h3]

theorem TInv.reNick {t : St} {n : Bytes} (h : TInv t n) (f m : Bytes) :
    TInv (Tracker.step t (.reNick f m)).1 (if f = n then m else n) := by
  obtain ⟨o, h1, h2, h3, h4⟩ := h
  by_cases hf : f = n
  · subst hf
    by_cases hm : f = m
    · subst hm
      simp [Tracker.step, h2, AL.lookup, AL.has]
      exact ⟨o, h1, h2, h3, h4⟩
    · simp [Tracker.step, h2, AL.lookup, AL.has, hm, getN, h1, h4, AL.keys, setN, AL.insert, AL.erase]
      exact ⟨_, rfl, rfl, rfl, by simp⟩
  · simp [Tracker.step, h2, AL.lookup, hf, Ne.symm hf]
    exact ⟨o, h1, h2, h3, h4⟩

theorem TInv.nickInfo {t : St} {n : Bytes} (h : TInv t n) (k i hh nm : Bytes) :
    TInv (Tracker.step t (.nickInfo k i hh nm)).1 n := by
  obtain ⟨o, h1, h2, h3, h4⟩ := h
  by_cases hk : n = k
  · subst hk
    simp [Tracker.step, h2, AL.lookup, getN, h1, setN, AL.insert]
    exact ⟨_, rfl, rfl, h3, h4⟩
  · simp [Tracker.step, h2, AL.lookup, hk]
    exact ⟨o, h1, h2, h3, h4⟩

def CInv (gen : Bytes → Bytes) (ext : UnicodeExt) (n : Bytes) (c : Client) : Prop :=
  c.cfg.meNil = false ∧ c.newNick = gen ∧ c.ext = ext ∧
  match c.st with
  | none => c.cfg.meNick = n
  | some t => TInv t n

theorem CInv.me {gen ext n c} (h : CInv gen ext n c) : (refreshMe c).cfg.meNick = n := by
  obtain ⟨h1, h2, h3, h4⟩ := h
  unfold refreshMe
  split
  · rename_i t ht; rw [ht] at h4; simpa using h4.snap
  · rename_i ht; rw [ht] at h4; exact h4

theorem CInv.refresh {gen ext n c} (h : CInv gen ext n c) : CInv gen ext n (refreshMe c) := by
  obtain ⟨h1, h2, h3, h4⟩ := h
  unfold refreshMe
  split
  · rename_i t ht; rw [ht] at h4; exact ⟨rfl, h2, h3, by simpa [ht] using h4⟩
  · exact ⟨h1, h2, h3, h4⟩

theorem CInv.reNick {gen ext n c} (h : CInv gen ext n c) (ht : c.st.isSome) (m : Bytes) :
    CInv gen ext m (tk c (.reNick n m)).1 ∧
    ∀ s, CInv gen ext m (setMeFrom (tk c (.reNick n m)).1 s) := by
  obtain ⟨h1, h2, h3, h4⟩ := h
  obtain ⟨t, ht⟩ := Option.isSome_iff_exists.1 ht
  rw [ht] at h4
  have := h4.reNick n m
  rw [if_pos rfl] at this
  rw [tk_some ht]
  exact ⟨⟨h1, h2, h3, by simpa using this⟩, fun s => ⟨rfl, h2, h3, by simpa [setMeFrom] using this⟩⟩

theorem CInv.nickInfo {gen ext n c} (h : CInv gen ext n c) (k i hh nm : Bytes) :
    CInv gen ext n (tk c (.nickInfo k i hh nm)).1 := by
  obtain ⟨h1, h2, h3, h4⟩ := h
  unfold tk
  split
  · rename_i t ht; rw [ht] at h4
    exact ⟨h1, h2, h3, by simpa using h4.nickInfo k i hh nm⟩
  · exact ⟨h1, h2, h3, h4⟩

theorem h_433_inv {gen ext n c} (h : CInv gen ext n c) (l : Line) (r : Bytes) (hr : l.args[1]? = some r) :
    CInv gen ext (if r = n then gen r else n) (h_433 c l).c := by
  have hr' := h.refresh
  have hme := h.me
  obtain ⟨h1, h2, h3, h4⟩ := hr'
  simp only [h_433, h1, arg, hr, hme]
  simp only [Bool.false_eq_true, if_false, beq_iff_eq]
  by_cases hrn : r = n
  · subst hrn
    simp only [if_true]
    split
    · rename_i t ht
      have := CInv.reNick ⟨h1, h2, h3, h4⟩ (ht ▸ rfl) (gen r)
      simp only [h2]
      split
      · exact this.2 _
      · exact this.1
    · rename_i ht
      simp only [h2]
      refine ⟨?_, ?_, ?_, ?_⟩ <;> simp [*]
  · simp only [hrn, if_false]
    exact ⟨h1, h2, h3, h4⟩

theorem h_001_inv {gen ext n c} (h : CInv gen ext n c) (l : Line) :
    CInv gen ext l.target (h_001 c l).c := by
  have hr' := h.refresh
  have hme := h.me
  obtain ⟨h1, h2, h3, h4⟩ := hr'
  simp only [h_001, h1, hme]
  simp only [Bool.false_eq_true, if_false]
  generalize parseUserHost (lastWord l.text) = uh
  cases ht : (refreshMe c).st with
  | some t =>
    simp only
    rcases uh with _ | ⟨a, i, hh⟩
    · simp only
      have := CInv.reNick ⟨h1, h2, h3, h4⟩ (ht ▸ rfl) l.target
      split
      · exact this.2 _
      · exact this.1
    · simp only
      have := (CInv.nickInfo ⟨h1, h2, h3, h4⟩ n i hh (refreshMe c).cfg.meName).reNick
        (by rw [tk_st_isSome, ht]; rfl) l.target
      split
      · exact this.2 _
      · exact this.1
  | none =>
    simp only
    rcases uh with _ | ⟨a, i, hh⟩ <;> (refine ⟨?_, ?_, ?_, ?_⟩ <;> simp [*])

theorem trailing_of_take (L : Bytes) (h : L.take 2 = [32, 58]) : ∃ t, L = trPart (some t) :=
  ⟨L.drop 2, by rw [trPart, ← List.take_append_drop 2 L, h]; simp⟩

theorem parse_s433 (ext : UnicodeExt) (s : Srv) (r : Bytes) (hs : SaneName s.nick) (hr : SaneName r) :
    ∃ t, ParsesTo ext (lineOf s (.s433 r)) [] [] (lit "irc.test") (lit "433")
      [if s.registered then s.nick else [42], r, t] := by
  obtain ⟨t, ht⟩ := trailing_of_take (lit " :Nickname is already in use") (by decide +kernel)
  have hf : lit ":irc.test 433 " = 58 :: (lit "irc.test" ++ 32 :: (lit "433" ++ [32])) := by decide +kernel
  have hm : ∀ a ∈ [if s.registered then s.nick else [42], r], midOk a = true := by
    intro a ha
    simp only [List.mem_cons, List.not_mem_nil, or_false] at ha
    rcases ha with rfl | rfl
    · split
      · exact hs.midOk
      · decide
    · exact hr.midOk
  have := parse_gen ext (.server (lit "irc.test")) srvSrc_wf (lit "433") (by decide +kernel) _ hm (some t)
  exact ⟨t, by simpa [lineOf, Source.render, spMids, hf, ht, srcNick, srcIdent, srcHost] using this⟩

theorem parse_s001 (ext : UnicodeExt) (s : Srv) (n : Bytes) (mask : Bool) (hn : SaneName n) :
    ∃ t, ParsesTo ext (lineOf s (.s001 n mask)) [] [] (lit "irc.test") (lit "001") [n, t] := by
  -- whatever the welcome says, it is a trailing parameter
  obtain ⟨t, ht⟩ : ∃ t, lineOf s (.s001 n mask) = lit ":irc.test 001 " ++ n ++ trPart (some t) := by
    cases mask
    · obtain ⟨t, ht⟩ := trailing_of_take (lit " :Welcome to the Internet Relay Network ") (by decide +kernel)
      exact ⟨t ++ n, by simp [lineOf, ht, trPart]⟩
    · obtain ⟨t, ht⟩ := trailing_of_take (lit " :Welcome to the network ") (by decide +kernel)
      exact ⟨t ++ n ++ lit "!ident@host.example", by simp [lineOf, ht, trPart]⟩
  have hf : lit ":irc.test 001 " = 58 :: (lit "irc.test" ++ 32 :: (lit "001" ++ [32])) := by decide +kernel
  have := parse_gen ext (.server (lit "irc.test")) srvSrc_wf (lit "001") (by decide +kernel) [n] (by simpa using hn.midOk) (some t)
  exact ⟨t, by simpa [ht, Source.render, spMids, hf, srcNick, srcIdent, srcHost] using this⟩

theorem parse_sNick (ext : UnicodeExt) (s : Srv) (new : Bytes) (hs : SaneName s.nick) (hn : SaneName new) :
    ParsesTo ext (lineOf s (.sNick new)) s.nick (lit "ident") (lit "host.example") (lit "NICK") [new] := by
  have hf : lit "!ident@host.example NICK " =
      33 :: (lit "ident" ++ 64 :: (lit "host.example" ++ 32 :: (lit "NICK" ++ [32]))) := by decide +kernel
  have := parse_gen ext (.user s.nick (lit "ident") (lit "host.example"))
    (hs.user_wf _ _ (by decide +kernel) (by decide +kernel) (by decide +kernel)) (lit "NICK")
    (by decide +kernel) [new] (by simpa using hn.midOk) none
  simpa [lineOf, Source.render, spMids, trPart, hf, srcNick, srcIdent, srcHost] using this

/-- the new name in another user's NICK line is a trailing parameter: it may be anything -/
theorem parse_sOther (ext : UnicodeExt) (s : Srv) (frm to : Bytes) (hf : SaneName frm) :
    ParsesTo ext (lineOf s (.sOther frm to)) frm (lit "o") (lit "other.example") (lit "NICK") [to] := by
  have hl : lit "!o@other.example NICK :" =
      33 :: (lit "o" ++ 64 :: (lit "other.example" ++ 32 :: (lit "NICK" ++ [32, 58]))) := by decide +kernel
  have := parse_gen ext (.user frm (lit "o") (lit "other.example"))
    (hf.user_wf _ _ (by decide +kernel) (by decide +kernel) (by decide +kernel)) (lit "NICK")
    (by decide +kernel) [] (by simp) (some to)
  simpa [lineOf, Source.render, spMids, trPart, hl, srcNick, srcIdent, srcHost] using this

theorem dispatch_NICK (c : Client) (l : Line) (h : l.cmd = lit "NICK") :
    (dispatchInternal c l).c = match c.st with
      | some _ => (h_STNICK c l).c
      | none => (h_NICK c l).c := by
  have h1 : intHandler (lit "nick") = some h_NICK := rfl
  have h2 : stHandler (lit "nick") = some h_STNICK := rfl
  have h3 := h_NICK_st c l
  have hl : toLower c.ext (lit "NICK") = lit "nick" := rfl
  simp only [dispatchInternal, h, hl, h1, h2]
  cases hst : c.st with
  | some t => simp [h_NICK, hst]
  | none =>
    rw [hst] at h3
    simp only [h3]

theorem nick_inv {gen ext n c} (h : CInv gen ext n c) (l : Line) (a : Bytes)
    (hcmd : l.cmd = lit "NICK") (ha : l.args[0]? = some a) :
    CInv gen ext (if l.nick = n then a else n) (dispatchInternal c l).c := by
  rw [dispatch_NICK c l hcmd]
  obtain ⟨h1, h2, h3, h4⟩ := h
  cases hst : c.st with
  | some t =>
    rw [hst] at h4
    simp only [h_STNICK, arg, ha, tk_some hst]
    exact ⟨h1, h2, h3, h4.reNick l.nick a⟩
  | none =>
    rw [hst] at h4
    simp only at h4
    simp only [h_NICK, hst, h1, arg, ha, h4]
    simp only [Bool.false_eq_true, if_false, beq_iff_eq]
    by_cases hf : l.nick = n
    · simp only [hf, if_true]
      refine ⟨?_, ?_, ?_, ?_⟩ <;> simp [*]
    · simp only [hf, if_false]
      refine ⟨?_, ?_, ?_, ?_⟩ <;> simp [*]

theorem step_inv (gen : Bytes → Bytes) (ext : UnicodeExt) (s : Srv) (c : Client) (e : Ev)
    (h : CInv gen ext s.nick c) (hs : SaneName s.nick) (he : ∀ n ∈ evNames e, SaneName n)
    (hg : ∀ n, SaneName n → SaneName (gen n)) (hc : conforms s e = true) :
    ∃ l, parseLine ext (lineOf s e) = some l ∧
      CInv gen ext (Spec.NickScript.step gen s e).nick (dispatchInternal c l).c ∧
      SaneName (Spec.NickScript.step gen s e).nick := by
  cases e with
  | s433 r =>
    have hr : SaneName r := he r (by simp [evNames])
    obtain ⟨t, L, hL, -, -, -, hcmd, hargs⟩ := parse_s433 ext s r hs hr
    refine ⟨L, hL, ?_⟩
    rw [dispatchInternal_int (h := h_433) (by rw [hcmd]; rfl) (by rw [hcmd]; rfl)]
    have := h_433_inv h L r (by rw [hargs]; rfl)
    simp only [conforms] at hc
    simp only [Spec.NickScript.step]
    cases hreg : s.registered with
    | true =>
      simp only [hreg, if_true, bne_iff_ne, ne_eq] at hc
      simp only [hc, if_false] at this
      exact ⟨this, hs⟩
    | false =>
      simp only [hreg, Bool.false_eq_true, if_false, beq_iff_eq] at hc
      rw [if_pos hc] at this
      exact ⟨this, hg _ hr⟩
  | s001 n mask =>
    have hr : SaneName n := he n (by simp [evNames])
    obtain ⟨t, L, hL, -, -, -, hcmd, hargs⟩ := parse_s001 ext s n mask hr
    refine ⟨L, hL, ?_, hr⟩
    have htgt : L.target = n := by
      rw [Line.target_of_other L (by rw [hcmd]; decide +kernel), hargs]; rfl
    rw [dispatchInternal_int (h := h_001) (by rw [hcmd]; rfl) (by rw [hcmd]; rfl)]
    exact htgt ▸ h_001_inv h L
  | sNick new =>
    have hr : SaneName new := he new (by simp [evNames])
    obtain ⟨L, hL, hnick, -, -, hcmd, hargs⟩ := parse_sNick ext s new hs hr
    refine ⟨L, hL, ?_, hr⟩
    have := nick_inv h L new hcmd (by rw [hargs]; rfl)
    simp only [hnick, if_true] at this
    exact this
  | sOther frm t2 =>
    obtain ⟨L, hL, hnick, -, -, hcmd, hargs⟩ := parse_sOther ext s frm t2 (he frm (by simp [evNames]))
    refine ⟨L, hL, ?_, hs⟩
    have := nick_inv h L t2 hcmd (by rw [hargs]; rfl)
    simp only [conforms, Bool.and_eq_true, bne_iff_ne, ne_eq] at hc
    simp only [hnick, hc.1.1, if_false] at this
    exact this

theorem start_inv (nick : Bytes) (gen : Bytes → Bytes) (ext : UnicodeExt) (track : Bool) (i nm : Bytes) :
    CInv gen ext nick
      (let c : Client := { cfg := { meNick := nick, meIdent := i, meName := nm }, newNick := gen, ext := ext }
       if track then enableTracking c else c) := by
  cases track with
  | false => exact ⟨rfl, rfl, rfl, rfl⟩
  | true =>
    simp only [if_true, enableTracking]
    refine CInv.refresh ⟨rfl, rfl, rfl, ?_⟩
    simp [TInv, Tracker.new, Tracker.step, AL.lookup, getN, setN, AL.insert]
end Go.Client
