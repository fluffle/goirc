import Goirc.Model.Split
import Goirc.Spec.Split
import Goirc.Proofs.Bytes
/-!
# C11: the shape of what `splitMessage` returns

A split is a list of chunks, each followed by the marker, then the rest of the text (`marked`, `Chunks`, `splitMessage_eq`); every
clause of C11 is read off that shape.
-/
namespace Go
open Spec.Split (rejoin markersOk effLen)

theorem rejoin_cons (p : Bytes) {ps : List Bytes} (h : ps ≠ []) :
    rejoin (p :: ps) = p.take (p.length - 3) ++ rejoin ps := by
  cases ps with
  | nil => contradiction
  | cons => rfl

theorem markersOk_cons (p : Bytes) {ps : List Bytes} (h : ps ≠ []) :
    markersOk (p :: ps) = (hasSuffix p Spec.Split.dots && markersOk ps) := by
  cases ps with
  | nil => contradiction
  | cons => rfl

theorem hasSuffix_append_self (a b : Bytes) : hasSuffix (a ++ b) b = true := by
  unfold hasSuffix
  rw [List.reverse_append]
  exact hasPrefix_append_left _ _

def marked (cs : List Bytes) (last : Bytes) : List Bytes := cs.map (· ++ dots) ++ [last]

theorem marked_cons (c : Bytes) (cs : List Bytes) (last : Bytes) :
    marked (c :: cs) last = (c ++ dots) :: marked cs last := rfl

theorem marked_ne_nil (cs : List Bytes) (last : Bytes) : marked cs last ≠ [] := by simp [marked]

theorem mem_marked {cs : List Bytes} {last p : Bytes} (hp : p ∈ marked cs last) :
    (∃ c ∈ cs, p = c ++ dots) ∨ p = last := by
  simpa [marked, eq_comm] using hp

theorem rejoin_marked (cs : List Bytes) (last : Bytes) : rejoin (marked cs last) = cs.flatten ++ last := by
  induction cs with
  | nil => rfl
  | cons c cs ih =>
    rw [marked_cons, rejoin_cons _ (marked_ne_nil cs last), ih, List.flatten_cons, List.append_assoc]
    simp [dots]

theorem markersOk_marked (cs : List Bytes) (last : Bytes) : markersOk (marked cs last) = true := by
  induction cs with
  | nil => rfl
  | cons c cs ih =>
    rw [marked_cons, markersOk_cons _ (marked_ne_nil cs last), ih, Bool.and_true]
    exact hasSuffix_append_self c dots

/-- `cs` and `last` cut `msg` into pieces that fit the limit `n` once each chunk has its marker -/
structure Chunks (n : Nat) (msg : Bytes) (cs : List Bytes) (last : Bytes) : Prop where
  join : cs.flatten ++ last = msg
  chunk_le : ∀ c ∈ cs, c.length + 3 ≤ n
  last_le : last.length ≤ n
  last_ne : msg ≠ [] → last ≠ []
  ne_nil : n < msg.length → cs ≠ []

theorem splitLoop_short (msg : Bytes) (n : Nat) (h : 13 ≤ n) (hs : msg.length ≤ n) :
    splitLoop msg n h = [msg] := by
  rw [splitLoop, dif_neg (by omega)]

theorem splitLoop_eq (msg : Bytes) (n : Nat) (h : 13 ≤ n) :
    ∃ cs last, splitLoop msg n h = marked cs last ∧ Chunks n msg cs last := by
  fun_induction splitLoop msg n h with
  | case1 msg hl ih =>
    obtain ⟨cs, last, e, hs⟩ := ih
    have hc := cutIdx_bound msg n h hl
    refine ⟨msg.take (cutIdx msg n) :: cs, last, by rw [e, marked_cons], ?_, ?_, hs.last_le, fun _ => hs.last_ne ?_,
      fun _ => List.cons_ne_nil _ _⟩
    · rw [List.flatten_cons, List.append_assoc, hs.join, List.take_append_drop]
    · intro c hc'
      rcases List.mem_cons.1 hc' with rfl | hc'
      · rw [List.length_take]; omega
      · exact hs.chunk_le c hc'
    · -- the cut is at most `n - 3` bytes in, so something is left
      intro hd
      have := congrArg List.length hd
      rw [List.length_drop, List.length_nil] at this
      omega
  | case2 msg hl =>
    exact ⟨[], msg, rfl, rfl, fun _ h => absurd h List.not_mem_nil, by omega, id, fun h => absurd h hl⟩

theorem splitMessage_eq_loop (text : Bytes) (n : Int) :
    ∃ h : 13 ≤ effLen n, splitMessage text n = splitLoop text (effLen n) h := by
  unfold splitMessage effLen
  split
  · exact ⟨by decide, rfl⟩
  · exact ⟨by omega, rfl⟩

theorem splitMessage_eq (text : Bytes) (n : Int) :
    ∃ cs last, splitMessage text n = marked cs last ∧ Chunks (effLen n) text cs last := by
  obtain ⟨h, e⟩ := splitMessage_eq_loop text n
  rw [e]; exact splitLoop_eq text _ h

theorem mem_of_mem_splitMessage {text : Bytes} {n : Int} {p : Bytes} (hp : p ∈ splitMessage text n) {b : UInt8}
    (hb : b ∈ p) : b ∈ text ∨ b ∈ dots := by
  obtain ⟨cs, last, e, hs⟩ := splitMessage_eq text n
  rw [e] at hp
  rw [← hs.join, List.mem_append, List.mem_flatten]
  rcases mem_marked hp with ⟨c, hc, rfl⟩ | rfl
  · exact (List.mem_append.1 hb).imp_left fun h => Or.inl ⟨c, hc, h⟩
  · exact Or.inl (Or.inr hb)

end Go
