import Goirc.Proofs.Tracker
/-!
# `ChannelModes`: the heap model's `chanParseModes` simulates the spec's `parseModes`

Flags, key and limit are attribute updates (`R_chanAttr`).  A privilege letter is where the two sides differ: the model finds
the nick through `channel.lookup` and the cell through `channel.nicks`, the spec looks the membership up;
`mem_via_channel` says these find the same thing, then it is `R_setP`.  `parseModes_sim` is the induction over the mode string.
-/
namespace Spec.Tracker
open Go.Tracker AL

theorem R_chanModes {st : St} {S : S} (r : R st S) {c : Bytes} {ci : Id}
    (h : AL.lookup st.chans c = some ci) (m : ChanMode) :
    R (setC st ci { getC st ci with modes := m })
      { S with chans := AL.insert S.chans c { (AL.lookup S.chans c).getD {} with modes := m } } := by
  rw [r.2.chan_getD h]
  exact R_chanAttr r h { getC st ci with modes := m } rfl rfl rfl

theorem mem_via_channel {st : St} {S : S} (r : R st S) {c a : Bytes} {ci : Id} (h : AL.lookup st.chans c = some ci) :
    AL.lookup S.mem (c, a) =
      (AL.lookup (getC st ci).lookup a).bind fun n => (AL.lookup (getC st ci).nicks n).map (getP st) := by
  have lc := r.1.liveC h
  rw [r.2.mem, h, Option.bind_some, r.1.clookup_eq lc]
  cases hn : AL.lookup st.nicks a with
  | none => rfl
  | some n =>
    rw [Option.bind_some, r.1.on_eq lc (r.1.liveN hn), Option.filter_some, has_eq]
    cases hx : AL.lookup (getC st ci).nicks n with
    | none => rfl
    | some cell => simp only [Option.isSome_some, if_true, Option.bind_some, hx]

theorem parseModes_sim {c : Bytes} {ci : Id} : ∀ (modes : Bytes) (st : St) (S : S) (op : Bool) (args : List Bytes),
    R st S → AL.lookup st.chans c = some ci →
    R (chanParseModes st ci op modes args) (parseModes S c op modes args) ∧
    (chanParseModes st ci op modes args).chans = st.chans := by
  intro modes
  induction modes with
  | nil =>
    intro st S op args r _
    simp only [chanParseModes, parseModes]
    exact ⟨r, trivial⟩
  | cons x rest ih =>
    intro st S op args r h
    -- the two ways a step continues: on a channel with a new mode record, or unchanged
    have stepC : ∀ (m : ChanMode) (op' : Bool) (args' : List Bytes),
        R (chanParseModes (setC st ci { getC st ci with modes := m }) ci op' rest args')
          (parseModes { S with chans := AL.insert S.chans c { (AL.lookup S.chans c).getD {} with modes := m } } c op' rest args') ∧
        (chanParseModes (setC st ci { getC st ci with modes := m }) ci op' rest args').chans = st.chans := by
      intro m op' args'
      exact ih _ _ op' args' (R_chanModes r h m) h
    have hmodes : ((AL.lookup S.chans c).getD {}).modes = (getC st ci).modes := by
      rw [r.2.chan_getD h]; rfl
    simp only [chanParseModes, parseModes]
    by_cases h43 : x == 43
    · simp only [h43, if_true]; exact ih st S true args r h
    simp only [h43, Bool.false_eq_true, if_false]
    by_cases h45 : x == 45
    · simp only [h45, if_true]; exact ih st S false args r h
    simp only [h45, Bool.false_eq_true, if_false]
    rw [hmodes]
    cases hf : applyChanFlag (getC st ci).modes op x with
    | some m => simp only []; exact stepC m op args
    | none =>
      simp only []
      by_cases h107 : x == 107
      · simp only [h107, if_true]
        cases op with
        | false =>
          simp only [Bool.false_and, Bool.false_eq_true, if_false, Bool.not_false, if_true]
          rw [← hmodes]; exact stepC _ false args
        | true =>
          cases args with
          | nil =>
            simp only [List.isEmpty_nil, Bool.not_true, Bool.and_false, Bool.false_eq_true, if_false]
            exact ih st S true [] r h
          | cons a more =>
            simp only [List.isEmpty_cons, Bool.not_false, Bool.and_self, if_true, List.tail_cons]
            rw [← hmodes]; exact stepC _ true more
      simp only [h107, Bool.false_eq_true, if_false]
      by_cases h108 : x == 108
      · simp only [h108, if_true]
        cases op with
        | false =>
          simp only [Bool.false_and, Bool.false_eq_true, if_false, Bool.not_false, if_true]
          rw [← hmodes]; exact stepC _ false args
        | true =>
          cases args with
          | nil =>
            simp only [List.isEmpty_nil, Bool.not_true, Bool.and_false, Bool.false_eq_true, if_false]
            exact ih st S true [] r h
          | cons a more =>
            simp only [List.isEmpty_cons, Bool.not_false, Bool.and_self, if_true, List.tail_cons]
            rw [← hmodes]; exact stepC _ true more
      simp only [h108, Bool.false_eq_true, if_false]
      by_cases hp : isPrivChar x = true
      · simp only [hp, if_true]
        cases args with
        | nil => simp only []; exact ih st S op [] r h
        | cons a more =>
          simp only [mem_via_channel r h]
          cases hl : AL.lookup (getC st ci).lookup a with
          | none => exact ih st S op (a :: more) r h
          | some n =>
            -- `n` is on the channel and registered as `a`, so the cell is there
            have lc := r.1.liveC h
            obtain ⟨hon, hna⟩ := (r.1.ch_lookup ci lc a n).1 hl
            obtain ⟨cell, h1⟩ := (has_true_iff _ _).1 hon
            obtain ⟨ln, h3⟩ := r.1.ch_nk ci lc n cell h1
            simp only [Option.bind_some, h1, Option.map_some]
            refine ih _ _ op more (R_setP r h ?_ h3 _) h
            unfold LiveN at ln; rwa [hna] at ln
      · simp only [hp, Bool.false_eq_true, if_false]
        -- list modes b, e, I: untracked, but they consume one argument
        by_cases hl : (x == 98 || x == 101 || x == 73) = true
        · simp only [hl, if_true]; exact ih st S op args.tail r h
        · simp only [hl, Bool.false_eq_true, if_false]; exact ih st S op args r h

theorem sim_channelModes {st : St} {S : S} (r : R st S) (c modes : Bytes) (args : List Bytes) :
    Sim st S (.channelModes c modes args) := by
  unfold Sim
  simp only [Go.Tracker.step, Spec.Tracker.step, r.2.has_chans, has_eq]
  cases h : AL.lookup st.chans c with
  | none => exact ⟨r, trivial⟩
  | some ci =>
    obtain ⟨r', hch⟩ := parseModes_sim (c := c) (ci := ci) modes st S false args r h
    simp only [Option.isSome_some, if_true]
    refine ⟨r', chanSnap_sim r' ?_⟩
    rw [hch]; exact h

end Spec.Tracker
