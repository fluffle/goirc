import Goirc.Model.Commands
import Goirc.Spec.Wire
import Goirc.Proofs.Strings
import Goirc.Proofs.Split
/-!
# The command model's own lemmas

`Clean` (free of CR and LF) is what `cutNewLines` makes of a string and then leaves alone; every queued line is clean and
begins with its verb (`lineOk_cut`, `verbOf_clean`, `rawArgs_prefix`: C08); `splitCRLF` gives the queued lines back from the
wire; `splitArgs` cuts the arguments into consecutive groups and joins each with spaces (`splitArgs_eq`); the lines queued
by single commands whose arguments are clean (`exec_X`).
-/
namespace Go
open Spec.Wire

abbrev Clean (s : Bytes) : Prop := CR ∉ s ∧ LF ∉ s

theorem cutNewLines_clean (s : Bytes) : Clean (cutNewLines s) :=
  ⟨fun h => beforeByte_not_mem CR s (beforeByte_subset LF _ _ h), beforeByte_not_mem LF _⟩

theorem Clean.append {a b : Bytes} (ha : Clean a) (hb : Clean b) : Clean (a ++ b) := by
  simp [Clean, ha.1, ha.2, hb.1, hb.2]

theorem cutNewLines_append {p : Bytes} (h : Clean p) (s : Bytes) : cutNewLines (p ++ s) = p ++ cutNewLines s := by
  unfold cutNewLines
  rw [beforeByte_append_of_not_mem CR p s h.1, beforeByte_append_of_not_mem LF p _ h.2]

theorem cutNewLines_of_clean {s : Bytes} (h : Clean s) : cutNewLines s = s := by
  simpa [cutNewLines, beforeByte] using cutNewLines_append h []

theorem exec_of_clean (ext : UnicodeExt) (cfg : CmdCfg) (c : Cmd) (h : ∀ r ∈ rawArgs ext cfg c, Clean r) :
    exec ext cfg c = rawArgs ext cfg c :=
  (List.map_congr_left fun r hr => cutNewLines_of_clean (h r hr)).trans (List.map_id' _)

theorem cutNewLines_prefix {p : Bytes} (h : Clean p) (s : Bytes) : hasPrefix (cutNewLines (p ++ s)) p = true := by
  rw [cutNewLines_append h]; exact hasPrefix_append_left _ _

theorem lineOk_cut (v r : Bytes) (hv : Clean v) (hp : hasPrefix r v = true) :
    lineOk v (cutNewLines r) = true := by
  obtain ⟨t, rfl⟩ := (hasPrefix_iff r v).1 hp
  unfold lineOk
  obtain ⟨h1, h2⟩ := cutNewLines_clean (v ++ t)
  have h3 := cutNewLines_prefix hv t
  simp only [CR, LF] at h1 h2
  simp [h1, h2, h3]

theorem verbOf_clean (c : Cmd) : Clean (verbOf c) := by
  cases c <;> simp only [verbOf] <;> decide +kernel

theorem hasPrefix_app3 (v a b : Bytes) : hasPrefix (v ++ a ++ b) v = true := by
  rw [List.append_assoc]; exact hasPrefix_append_left _ _

/-- each string is written `verb ++ ..` in `rawArgs` -/
theorem rawArgs_prefix (ext : UnicodeExt) (cfg : CmdCfg) (c : Cmd) :
    ∀ r ∈ rawArgs ext cfg c, hasPrefix r (verbOf c) = true := by
  cases c <;> simp only [rawArgs, verbOf, List.forall_mem_map, List.mem_singleton, forall_eq, List.append_assoc,
    hasPrefix_append_left, hasPrefix_nil, implies_true]
  case cap sub caps =>
    split <;> simp only [List.forall_mem_map, List.mem_singleton, forall_eq, hasPrefix_append_left, implies_true]

theorem splitCRLF_line (acc l rest : Bytes) (h : (13 : UInt8) ∉ l) :
    splitCRLF acc (l ++ 13 :: 10 :: rest) = (acc.reverse ++ l) :: splitCRLF [] rest := by
  induction l generalizing acc with
  | nil => simp [splitCRLF]
  | cons x l ih =>
    have hx : x ≠ 13 := (List.ne_of_not_mem_cons h).symm
    rw [List.cons_append, splitCRLF.eq_3 _ _ _ (fun _ e _ => hx e), ih _ (List.not_mem_of_not_mem_cons h)]
    simp

theorem splitCRLF_wire (lines : List Bytes) (h : ∀ l ∈ lines, (13 : UInt8) ∉ l) :
    splitCRLF [] (wireBytes lines) = lines ++ [[]] := by
  induction lines with
  | nil => simp [wireBytes, splitCRLF]
  | cons l ls ih =>
    have := splitCRLF_line [] l (wireBytes ls) (h l (by simp))
    simp only [wireBytes, List.flatMap_cons, List.append_assoc, CR, LF] at this ⊢
    simp only [List.cons_append, List.nil_append] at this ⊢
    rw [this]
    simp only [List.reverse_nil, List.nil_append, List.cons.injEq, true_and]
    exact ih (fun l' hl' => h l' (by simp [hl']))

/-- a group of arguments as `splitArgs` makes them: not empty, and below the limit unless it is a single argument -/
def ArgGroup (n : Int) (g : List Bytes) : Prop := g ≠ [] ∧ (1 < g.length → ((join [SP] g).length : Int) < n)

theorem splitArgsAux_eq (n : Int) (rest g : List Bytes) (hg : ArgGroup n g) :
    ∃ gs : List (List Bytes), splitArgsAux n (some (join [SP] g)) rest = gs.map (join [SP]) ∧ gs.flatten = g ++ rest ∧
      ∀ g' ∈ gs, ArgGroup n g' := by
  induction rest generalizing g with
  | nil => exact ⟨[g], rfl, by simp, by simpa using hg⟩
  | cons a rest ih =>
    rw [splitArgsAux]
    split
    · rename_i hlt
      rw [← join_snoc [SP] hg.1]
      obtain ⟨gs, e, hf, hgs⟩ := ih (g ++ [a]) ⟨by simp, fun _ => by
        rw [join_snoc [SP] hg.1]; simp only [List.length_append, List.length_cons, List.length_nil]; omega⟩
      exact ⟨gs, e, by rw [hf, List.append_assoc]; rfl, hgs⟩
    · obtain ⟨gs, e, hf, hgs⟩ := ih [a] ⟨by simp, fun h => absurd h (by simp)⟩
      refine ⟨g :: gs, by rw [List.map_cons, ← e]; rfl, by rw [List.flatten_cons, hf]; rfl, ?_⟩
      intro g' hg'
      rcases List.mem_cons.1 hg' with rfl | hg'
      · exact hg
      · exact hgs g' hg'

theorem splitArgs_eq (args : List Bytes) (n : Int) :
    ∃ gs : List (List Bytes), splitArgs args n = gs.map (join [SP]) ∧ gs.flatten = args ∧ ∀ g ∈ gs, ArgGroup n g := by
  cases args with
  | nil => exact ⟨[], rfl, rfl, fun _ h => absurd h List.not_mem_nil⟩
  | cons a rest => exact splitArgsAux_eq n rest [a] ⟨by simp, fun h => absurd h (by simp)⟩

/-! Closed facts about `lit ".."` literals, such as `e : V.PASS ++ [SP] = lit "PASS "` and `Clean (lit "PASS ")` below, hold by
evaluation. `rfl` and `decide` make the elaborator evaluate `lit` (a `String` taken apart character by character) before the
kernel does so again, which is slow; `decide +kernel` leaves it to the kernel alone. With several hypotheses about literals in
scope, `assumption` and `rwa` try each and compare the literals by the same evaluation: name the one meant. -/

theorem exec_pass (ext : UnicodeExt) (cfg : CmdCfg) (p : Bytes) (h : Clean p) :
    exec ext cfg (.pass p) = [lit "PASS " ++ p] := by
  have e : V.PASS ++ [SP] = lit "PASS " := by decide +kernel
  have hc : Clean (lit "PASS ") := by decide +kernel
  show [cutNewLines (V.PASS ++ [SP] ++ p)] = _
  rw [e, cutNewLines_of_clean (hc.append h)]

theorem exec_nick (ext : UnicodeExt) (cfg : CmdCfg) (n : Bytes) (h : Clean n) :
    exec ext cfg (.nick n) = [lit "NICK " ++ n] := by
  have e : V.NICK ++ [SP] = lit "NICK " := by decide +kernel
  have hc : Clean (lit "NICK ") := by decide +kernel
  show [cutNewLines (V.NICK ++ [SP] ++ n)] = _
  rw [e, cutNewLines_of_clean (hc.append h)]

theorem exec_user (ext : UnicodeExt) (cfg : CmdCfg) (i n : Bytes) (hi : Clean i) (hn : Clean n) :
    exec ext cfg (.user i n) = [lit "USER " ++ i ++ lit " 12 * :" ++ n] := by
  have e : V.USER ++ [SP] = lit "USER " := by decide +kernel
  have h1 : Clean (lit "USER ") := by decide +kernel
  have h2 : Clean (lit " 12 * :") := by decide +kernel
  show [cutNewLines (V.USER ++ [SP] ++ i ++ lit " 12 * :" ++ n)] = _
  rw [e, cutNewLines_of_clean (((h1.append hi).append h2).append hn)]

theorem exec_cap_ls (ext : UnicodeExt) (cfg : CmdCfg) : exec ext cfg (.cap (lit "LS") []) = [lit "CAP LS"] := by
  show [cutNewLines (V.CAP ++ [SP] ++ lit "LS")] = _
  decide +kernel

theorem exec_pong (ext : UnicodeExt) (cfg : CmdCfg) (tok : Bytes) (h : Clean tok) :
    exec ext cfg (.pong tok) = [lit "PONG :" ++ tok] := by
  have e : V.PONG ++ [SP, 58] = lit "PONG :" := by decide +kernel
  have hc : Clean (lit "PONG :") := by decide +kernel
  show [cutNewLines (V.PONG ++ [SP, 58] ++ tok)] = _
  rw [e, cutNewLines_of_clean (hc.append h)]

theorem exec_authenticate (ext : UnicodeExt) (cfg : CmdCfg) (m : Bytes) (h : Clean m) :
    exec ext cfg (.authenticate m) = [lit "AUTHENTICATE " ++ m] := by
  have e : V.AUTHENTICATE ++ [SP] = lit "AUTHENTICATE " := by decide +kernel
  have hc : Clean (lit "AUTHENTICATE ") := by decide +kernel
  show [cutNewLines (V.AUTHENTICATE ++ [SP] ++ m)] = _
  rw [e, cutNewLines_of_clean (hc.append h)]

theorem splitMessage_clean (m : Bytes) (n : Int) (hm : Clean m) : ∀ p ∈ splitMessage m n, Clean p := by
  intro p hp
  have hd : Clean dots := by decide
  exact ⟨fun h => (mem_of_mem_splitMessage hp h).elim hm.1 hd.1, fun h => (mem_of_mem_splitMessage hp h).elim hm.2 hd.2⟩

end Go
