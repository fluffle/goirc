import Goirc.Proofs.C13Twins
import Goirc.Proofs.ClientCaps
import Goirc.Proofs.TrackerSim
/-!
# C13: the client's handlers over the heap tracker are simulated by their relational twins

`CRx ext nn c S` (`C13Defs`) says that the client's tracker refines `S` (`R`) and that its case tables and nick generator
are `ext` and `nn`.  These two are in the relation because the twins take them as parameters where the handlers read them
from the client: lines are parsed and dispatched with `ext`, `t_433` picks the next nick with `nn` (`tDispatch ext nn`);
with both fixed a twin is a function of the relational state alone.  `cfg.me*`, the cache behind `Conn.Me()`, is not in
the relation: a handler that needs it refreshes it first and then holds what the tracker says (`refreshMe_cfg`); of its
value between two lines nothing is claimed here.

One tracker call is one `sx` (`tk_fst`); a query leaves the client as it is and its answer reads a lookup of `S`
(`tk_getChannel`, `tk_getNick`, `tk_isOn`, from `TrackerSim`).  `h_001`, `h_433` and the thirteen state handlers go against
their twins (`sim_X`); the other internal handlers change nothing `CRx` looks at (`Keep`, `keep_X`).  The two stages of
dispatch (`int_sim`, `st_sim`) give `CRx_dispatch`, `CRx_feed`, and `CRx_enable` for `EnableStateTracking`.
-/
namespace Proofs.C13
open Go Go.Client Go.Tracker Spec.Tracker Spec.Net

def Keep (c c' : Client) : Prop := c'.st = c.st ∧ c'.ext = c.ext ∧ c'.newNick = c.newNick

theorem Keep.refl {c : Client} : Keep c c := ⟨rfl, rfl, rfl⟩

theorem setMeFrom_sim {ext : UnicodeExt} {nn : Bytes → Bytes} {c : Client} {S : TS} (h : CRx ext nn c S)
    (n : NickSnap) : CRx ext nn (setMeFrom c n) S := h

section
variable {ext : UnicodeExt} {nn : Bytes → Bytes} {c : Client} {S : TS}

theorem Keep.crx {c' : Client} (k : Keep c c') (h : CRx ext nn c S) : CRx ext nn c' S := by
  obtain ⟨k1, k2, k3⟩ := k
  unfold CRx
  rw [k1, k2, k3]; exact h

theorem refreshMe_sim (h : CRx ext nn c S) : CRx ext nn (refreshMe c) S :=
  Keep.crx ⟨refreshMe_st c, refreshMe_ext c, refreshMe_newNick c⟩ h

theorem tk_fst (h : CRx ext nn c S) (op : Op) : CRx ext nn (tk c op).1 (sx S op) := by
  obtain ⟨he, hn, st, hst, hr⟩ := h
  rw [tk_some hst]
  exact ⟨he, hn, _, rfl, (Spec.Tracker.step_sim hr op).1⟩

theorem tk_cases (h : CRx ext nn c S) (op : Op) : ∃ c' r, tk c op = (c', r) ∧ CRx ext nn c' (sx S op) :=
  ⟨_, _, rfl, tk_fst h op⟩

theorem tk_if (h : CRx ext nn c S) (b : Bool) (op : Op) :
    CRx ext nn (if b then (tk c op).1 else c) (if b then sx S op else S) := by
  cases b
  · exact h
  · exact tk_fst h op

/-- `conn.Me()` reads the client's own entry -/
theorem refreshMe_cfg (h : CRx ext nn c S) :
    (refreshMe c).cfg.meNil = false ∧ (refreshMe c).cfg.meNick = S.me ∧ (refreshMe c).cfg.meName = meName S := by
  obtain ⟨he, hn, st, hst, hr⟩ := h
  have hs := Spec.Tracker.nickSnap_sim hr hr.2.me
  simp only [refreshMe, hst]
  exact ⟨trivial, hs.1, hs.2.2.2.1⟩

theorem tk_getChannel (h : CRx ext nn c S) (t : Bytes) :
    ∃ r, tk c (.getChannel t) = (c, r) ∧ (retChan r).isSome = AL.has S.chans t ∧
      ∀ ch, retChan r = some ch → ch.name = t := by
  obtain ⟨_, _, st, hst, hr⟩ := h
  obtain ⟨o, e, ho, hs⟩ := R_getChannel hr t
  exact ⟨_, tk_answer hst e, ho, fun ch hc => (hs ch hc).1⟩

/-- `conn.Me().Equals(nk)` for the answer of `GetNick(n)` is `n == S.me` -/
theorem tk_getNick (h : CRx ext nn c S) (n : Bytes) :
    ∃ r, tk c (.getNick n) = (c, r) ∧ (retNick r).isSome = AL.has S.nicks n ∧
      isMe c (retNick r) = (AL.has S.nicks n && n == S.me) ∧ ∀ nk, retNick r = some nk → nk.nick = n := by
  have hme := (refreshMe_cfg h).2.1
  obtain ⟨_, _, st, hst, hr⟩ := h
  obtain ⟨o, e, ho, hs⟩ := R_getNick hr n
  refine ⟨_, tk_answer hst e, ho, ?_, fun nk hk => (hs nk hk).1⟩
  rw [← ho]
  cases o with
  | none => rfl
  | some a =>
    show (a.nick == (refreshMe c).cfg.meNick) = (true && n == S.me)
    rw [hme, (hs a rfl).1]; rfl

theorem tk_isOn (h : CRx ext nn c S) (chn n : Bytes) :
    ∃ p, tk c (.isOn chn n) = (c, .privs p (sIsOn S chn n)) := by
  obtain ⟨_, _, st, hst, hr⟩ := h
  obtain ⟨p, e⟩ := R_isOn hr chn n
  exact ⟨p, tk_answer hst e⟩

theorem sim_001 (h : CRx ext nn c S) (l : Line) : CRx ext nn (h_001 c l).c (t_001 S l) := by
  have hr := refreshMe_sim h
  obtain ⟨m1, m2, m3⟩ := refreshMe_cfg h
  obtain ⟨st, hst, _⟩ := hr.2.2
  unfold h_001 t_001
  simp only [m1, m2, m3, hst, Bool.false_eq_true, if_false]
  cases parseUserHost (lastWord l.text) with
  | none =>
    obtain ⟨c2, r, e, h2⟩ := tk_cases hr (.reNick S.me l.target)
    simp only [e]
    split <;> exact h2
  | some t =>
    obtain ⟨c2, r, e, h2⟩ := tk_cases (tk_fst hr (.nickInfo S.me t.2.1 t.2.2 (meName S))) (.reNick S.me l.target)
    simp only [e]
    split <;> exact h2

theorem sim_433 (h : CRx ext nn c S) (l : Line) : CRx ext nn (h_433 c l).c (t_433 nn S l) := by
  have hr := refreshMe_sim h
  obtain ⟨m1, m2, _⟩ := refreshMe_cfg h
  obtain ⟨st, hst, _⟩ := hr.2.2
  unfold h_433 t_433
  simp only [m1, m2, hst, hr.2.1, Bool.false_eq_true, if_false]
  cases arg l 1 with
  | none => exact hr
  | some refused =>
    dsimp only
    cases (refused == S.me)
    · exact hr
    · obtain ⟨c2, r, e, h2⟩ := tk_cases hr (.reNick S.me (nn refused))
      simp only [e, if_true]
      split <;> exact h2

theorem sim_STNICK (h : CRx ext nn c S) (l : Line) : CRx ext nn (h_STNICK c l).c (t_STNICK S l) := by
  unfold h_STNICK t_STNICK
  cases arg l 0 with
  | none => exact h
  | some a => exact tk_fst h _

theorem sim_JOIN (h : CRx ext nn c S) (l : Line) : CRx ext nn (h_JOIN c l).c (t_JOIN S l) := by
  unfold h_JOIN t_JOIN
  cases arg l 0 with
  | none => exact h
  | some chn =>
    obtain ⟨rc, e1, oc, _⟩ := tk_getChannel h chn
    obtain ⟨rn, e2, on, om, _⟩ := tk_getNick h l.nick
    simp only [e1, e2, ← Option.not_isSome, oc, on, om]
    have hr := refreshMe_sim h
    cases AL.has S.chans chn
    · cases AL.has S.nicks l.nick
      · exact hr
      · cases (l.nick == S.me)
        · exact hr
        · exact tk_fst (tk_fst hr _) _
    · cases AL.has S.nicks l.nick
      · exact tk_fst (tk_fst (tk_fst h _) _) _
      · exact tk_fst h _

theorem sim_PART (h : CRx ext nn c S) (l : Line) : CRx ext nn (h_PART c l).c (t_PART S l) := by
  unfold h_PART t_PART
  cases arg l 0 with
  | none => exact h
  | some a => exact tk_fst h _

theorem sim_KICK (h : CRx ext nn c S) (l : Line) : CRx ext nn (h_KICK c l).c (t_KICK S l) := by
  unfold h_KICK t_KICK
  cases arg l 0 with
  | none => exact h
  | some chn => cases arg l 1 with
    | none => exact h
    | some who => exact tk_fst h _

theorem sim_QUIT (h : CRx ext nn c S) (l : Line) : CRx ext nn (h_QUIT c l).c (t_QUIT S l) := tk_fst h _

theorem sim_MODE (h : CRx ext nn c S) (l : Line) : CRx ext nn (h_MODE c l).c (t_MODE S l) := by
  unfold h_MODE t_MODE
  cases arg l 0 with
  | none => exact h
  | some t => cases arg l 1 with
    | none => exact h
    | some m =>
      obtain ⟨rc, e1, oc, _⟩ := tk_getChannel h t
      obtain ⟨rn, e2, on, om, _⟩ := tk_getNick h t
      simp only [e1, e2, oc, on, om]
      cases AL.has S.chans t
      · cases AL.has S.nicks t
        · exact h
        · cases (t == S.me)
          · exact refreshMe_sim h
          · exact tk_fst (refreshMe_sim h) _
      · exact tk_fst h _

/-- look the channel up; if it is there, make one call -/
theorem sim_ifChan (h : CRx ext nn c S) (chn : Bytes) (op : Op) :
    CRx ext nn
      (match tk c (.getChannel chn) with
        | (c1, rc) => if (retChan rc).isSome then ({ c := (tk c1 op).1 } : HR) else { c := c1 }).c
      (if AL.has S.chans chn then sx S op else S) := by
  obtain ⟨rc, e, oc, _⟩ := tk_getChannel h chn
  simp only [e, oc]
  cases AL.has S.chans chn
  · exact h
  · exact tk_fst h _

theorem sim_TOPIC (h : CRx ext nn c S) (l : Line) : CRx ext nn (h_TOPIC c l).c (t_TOPIC S l) := by
  unfold h_TOPIC t_TOPIC
  cases arg l 0 with
  | none => exact h
  | some chn => cases arg l 1 with
    | none => exact h
    | some t => exact sim_ifChan h chn _

theorem sim_324 (h : CRx ext nn c S) (l : Line) : CRx ext nn (h_324 c l).c (t_324 S l) := by
  unfold h_324 t_324
  cases arg l 1 with
  | none => exact h
  | some chn => cases arg l 2 with
    | none => exact h
    | some m => exact sim_ifChan h chn _

theorem sim_332 (h : CRx ext nn c S) (l : Line) : CRx ext nn (h_332 c l).c (t_332 S l) := by
  unfold h_332 t_332
  cases arg l 1 with
  | none => exact h
  | some chn => cases arg l 2 with
    | none => exact h
    | some t => exact sim_ifChan h chn _

theorem sim_311 (h : CRx ext nn c S) (l : Line) : CRx ext nn (h_311 c l).c (t_311 S l) := by
  unfold h_311 t_311
  cases arg l 1 with
  | none => exact h
  | some n => cases arg l 2 with
    | none => exact h
    | some i => cases arg l 3 with
      | none => exact h
      | some ho => cases arg l 5 with
        | none => exact h
        | some name =>
          obtain ⟨rn, e, on, om, _⟩ := tk_getNick h n
          simp only [e, on, om]
          cases AL.has S.nicks n
          · exact h
          · unfold bne
            cases (n == S.me)
            · exact tk_fst (refreshMe_sim h) _
            · exact refreshMe_sim h

theorem sim_671 (h : CRx ext nn c S) (l : Line) : CRx ext nn (h_671 c l).c (t_671 S l) := by
  unfold h_671 t_671
  cases arg l 1 with
  | none => exact h
  | some n =>
    obtain ⟨rn, e, on, _, hnk⟩ := tk_getNick h n
    simp only [e, ← on]
    cases hq : retNick rn with
    | none => exact h
    | some nk => dsimp only; rw [hnk nk hq]; exact tk_fst h _

theorem sim_352 (h : CRx ext nn c S) (l : Line) : CRx ext nn (h_352 c l).c (t_352 S l) := by
  unfold h_352 t_352
  cases arg l 2 with
  | none => exact h
  | some ident => cases arg l 3 with
    | none => exact h
    | some host => cases arg l 5 with
      | none => exact h
      | some n =>
        obtain ⟨rn, e, on, om, hnk⟩ := tk_getNick h n
        simp only [e, ← on]
        cases hq : retNick rn with
        | none => exact h
        | some nk =>
          rw [← on, hq] at om
          dsimp only
          rw [om, hnk nk hq]
          have hr := refreshMe_sim h
          cases (n == S.me)
          · rcases cut (l.args.getLast?.getD []) [32] with ⟨_, _ | real⟩
            · exact hr
            · cases arg l 6 with
              | none => exact tk_fst hr _
              | some flags => exact tk_if (tk_if (tk_if (tk_fst hr _) _ _) _ _) _ _
          · exact hr

theorem sim_names (chn : Bytes) (ws : List Bytes) : ∀ {c : Client} {S : TS}, CRx ext nn c S →
    CRx ext nn (names353 c chn ws) (tNames chn S ws) := by
  induction ws with
  | nil => intro c S h; exact h
  | cons w rest ih =>
    intro c S h
    cases w with
    | nil => exact ih h
    | cons b tl =>
      simp only [names353, tNames, List.foldl_cons, tName]
      generalize (if (prefixMode b).isSome = true then tl else b :: tl) = nick
      obtain ⟨rn, e1, on, _, _⟩ := tk_getNick h nick
      simp only [e1, ← Option.not_isSome, on]
      have h2 := tk_if h (!AL.has S.nicks nick) (.newNick nick)
      generalize (if (!AL.has S.nicks nick) = true then (tk c (.newNick nick)).1 else c) = c2 at h2 ⊢
      generalize (if (!AL.has S.nicks nick) = true then sx S (.newNick nick) else S) = S2 at h2 ⊢
      obtain ⟨p, e3⟩ := tk_isOn h2 chn nick
      simp only [e3]
      apply ih
      cases sIsOn S2 chn nick <;> cases prefixMode b
      · exact tk_fst h2 _
      · exact tk_fst (tk_fst h2 _) _
      · exact h2
      · exact tk_fst h2 _

theorem sim_353 (h : CRx ext nn c S) (l : Line) : CRx ext nn (h_353 c l).c (t_353 S l) := by
  unfold h_353 t_353
  cases arg l 2 with
  | none => exact h
  | some chn =>
    obtain ⟨rc, e, oc, hname⟩ := tk_getChannel h chn
    simp only [e, ← oc]
    cases hq : retChan rc with
    | none => exact h
    | some ch => dsimp only; rw [hname ch hq]; exact sim_names chn _ h

end

theorem keep_REGISTER (c : Client) (l : Line) : Keep c (h_REGISTER c l).c := by
  rw [h_REGISTER_c]; exact Keep.refl

theorem keep_CTCP (c : Client) (l : Line) : Keep c (h_CTCP c l).c := by
  unfold h_CTCP
  split
  · exact Keep.refl
  · split
    · exact Keep.refl
    · split
      · split <;> exact Keep.refl
      · exact Keep.refl

theorem keep_NICK (c : Client) (l : Line) : Keep c (h_NICK c l).c := by
  unfold h_NICK
  split
  · exact Keep.refl
  · split
    · exact Keep.refl
    · split
      · split <;> exact Keep.refl
      · exact Keep.refl

theorem keep_PING (c : Client) (l : Line) : Keep c (h_PING c l).c := by
  unfold h_PING; split <;> exact Keep.refl

theorem keep_negotiate (c : Client) (adv : List Bytes) : Keep c (negotiate c adv).c := by
  unfold negotiate; simp only []; split <;> exact Keep.refl

theorem keep_capAckLoop (caps : List Bytes) (c : Client) (out : List Bytes) (got : Bool) :
    Keep c (capAckLoop c caps out got).1 := by
  rw [capAckLoop_eq]; cases c.cfg.sasl <;> exact Keep.refl

theorem keep_handleCapAck (c : Client) (caps : List Bytes) : Keep c (handleCapAck c caps).c := by
  unfold handleCapAck
  have := keep_capAckLoop caps c [] false
  revert this
  rcases capAckLoop c caps [] false with ⟨c1, out, got⟩
  intro this
  simp only []
  split <;> exact this

theorem keep_CAP (c : Client) (l : Line) : Keep c (h_CAP c l).c := by
  unfold h_CAP
  split
  · exact Keep.refl
  · simp only []
    split
    · exact keep_negotiate _ _
    · split
      · exact keep_handleCapAck _ _
      · split <;> exact Keep.refl

theorem keep_410 (c : Client) (l : Line) : Keep c (h_410 c l).c := by
  unfold h_410; split <;> exact Keep.refl

theorem keep_AUTHENTICATE (c : Client) (l : Line) : Keep c (h_AUTHENTICATE c l).c := by
  unfold h_AUTHENTICATE
  split
  · exact Keep.refl
  · split
    · exact Keep.refl
    · split <;> exact Keep.refl

theorem keep_903 (c : Client) (l : Line) : Keep c (h_903 c l).c := Keep.refl
theorem keep_904 (c : Client) (l : Line) : Keep c (h_904 c l).c := Keep.refl
theorem keep_908 (c : Client) (l : Line) : Keep c (h_908 c l).c := by
  unfold h_908; split <;> exact Keep.refl

section
variable {ext : UnicodeExt} {nn : Bytes → Bytes}

theorem int_keep {ev : Bytes} {hd : Client → Line → HR} (hh : intHandler ev = some hd)
    (h1 : ev ≠ lit "001") (h2 : ev ≠ lit "433") (c : Client) (l : Line) : Keep c (hd c l).c :=
  intHandler_cases (P := fun ev hd => ev ≠ lit "001" → ev ≠ lit "433" → ∀ c l, Keep c (hd c l).c)
    (fun _ _ => keep_REGISTER) (fun h _ => absurd rfl h) (fun _ h => absurd rfl h) (fun _ _ => keep_CTCP)
    (fun _ _ => keep_NICK) (fun _ _ => keep_PING) (fun _ _ => keep_CAP) (fun _ _ => keep_410)
    (fun _ _ => keep_AUTHENTICATE) (fun _ _ => keep_903) (fun _ _ => keep_904) (fun _ _ => keep_908) hh h1 h2 c l

theorem int_sim {c : Client} {S : TS} (h : CRx ext nn c S) (ev : Bytes) (l : Line) :
    CRx ext nn (dispHead ev c l).c
      (if ev == lit "001" then t_001 S l else if ev == lit "433" then t_433 nn S l else S) := by
  unfold dispHead
  by_cases h1 : (ev == lit "001") = true
  · have := eq_of_beq h1; subst this
    exact sim_001 h l
  by_cases h2 : (ev == lit "433") = true
  · have := eq_of_beq h2; subst this
    exact sim_433 h l
  simp only [h1, h2, Bool.false_eq_true, if_false]
  cases hh : intHandler ev with
  | none => exact h
  | some hd => exact (int_keep hh (fun e => h1 (e ▸ beq_self_eq_true _)) (fun e => h2 (e ▸ beq_self_eq_true _)) c l).crx h

theorem st_sim {r1 : HR} {S1 : TS} (h : CRx ext nn r1.c S1) (ev : Bytes) (l : Line) :
    CRx ext nn (dispTail ev l r1).c
      (match stTwin ev with
        | some t => t S1 l
        | none => S1) := by
  obtain ⟨st1, hst1, _⟩ := h.2.2
  unfold dispTail
  rw [hst1]
  exact stTable_cases
    (P := fun hd t => CRx ext nn
      (match some st1, hd with
        | some _, some hd =>
          let r2 := hd r1.c l
          ({ c := r2.c, out := r1.out ++ r2.out, panicked := r1.panicked || r2.panicked,
             connected := r1.connected || r2.connected } : HR)
        | _, _ => r1).c
      (match t with
        | some t => t S1 l
        | none => S1))
    (sim_JOIN h l) (sim_KICK h l) (sim_MODE h l) (sim_STNICK h l) (sim_PART h l) (sim_QUIT h l) (sim_TOPIC h l)
    (sim_311 h l) (sim_324 h l) (sim_332 h l) (sim_352 h l) (sim_353 h l) (sim_671 h l) h ev

end

theorem CRx_dispatch {ext : UnicodeExt} {nn : Bytes → Bytes} {c : Client} {S : TS} (h : CRx ext nn c S) (l : Line) :
    CRx ext nn (dispatchInternal c l).c (tDispatch ext nn S l) := by
  rw [dispatchInternal_eq, h.1]
  exact st_sim (int_sim h _ l) _ l

theorem CRx_feed {ext : UnicodeExt} {nn : Bytes → Bytes} {c : Client} {S : TS} (h : CRx ext nn c S) (ls : List Bytes) :
    CRx ext nn (feed c ls) (tFeed ext nn S ls) := by
  induction ls generalizing c S with
  | nil => exact h
  | cons l ls ih =>
    simp only [feed, tFeed, h.1]
    cases parseLine ext l with
    | none => exact ih h
    | some ln => exact ih (CRx_dispatch h ln)

theorem CRx_enable (c : Client) (h : c.st = none) :
    CRx c.ext c.newNick (enableTracking c)
      (sx (Spec.Tracker.new c.cfg.meNick) (.nickInfo c.cfg.meNick c.cfg.meIdent c.cfg.meHost c.cfg.meName)) := by
  unfold enableTracking
  simp only [h]
  apply refreshMe_sim
  exact ⟨rfl, rfl, _, rfl, (Spec.Tracker.step_sim (Spec.Tracker.R_new _) _).1⟩

end Proofs.C13
