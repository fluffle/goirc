import Goirc.Spec.Net
import Goirc.Proofs.ParseLine
/-!
# C13: decimal rendering (`toString` on `Nat` / `Int`) is read back by `Go.atoi`

The model server writes a channel limit with `natBytes` (in a MODE line) or `toString` of an `Int` (in the 324 reply), and the
tracker reads it with `Go.atoi`.  Both renderings are `decBytes`, the digits as bytes, which `digitsVal` reads back
(`atoi_natBytes`, `atoi_toString_int`); and the rendered number is a good middle parameter (`natBytes_midOk`,
`toString_int_midOk`).
-/
namespace Proofs.C13
open Go Spec.Net

def decBytes (k : Nat) : Bytes := (Nat.toDigits 10 k).map (fun c => c.toNat.toUInt8)

theorem natBytes_eq_decBytes (k : Nat) : natBytes k = decBytes k := by
  simp [natBytes, lit, decBytes]

theorem digitByte (d : Nat) (h : d < 10) : (Nat.digitChar d).toNat.toUInt8 = (48 + d).toUInt8 := by
  rw [Nat.toNat_digitChar_of_lt_ten h]

theorem decBytes_lt (k : Nat) (h : k < 10) : decBytes k = [(48 + k).toUInt8] := by
  simp [decBytes, Nat.toDigits_of_lt_base h, digitByte k h]

theorem decBytes_ge (k : Nat) (h : 10 ≤ k) : decBytes k = decBytes (k / 10) ++ [(48 + k % 10).toUInt8] := by
  simp [decBytes, Nat.toDigits_of_base_le (by decide : 1 < 10) h, digitByte (k % 10) (Nat.mod_lt _ (by decide))]

theorem digitsVal_snoc (l : Bytes) (d : Nat) (hd : d < 10) (acc : Nat) :
    digitsVal (l ++ [(48 + d).toUInt8]) acc = (digitsVal l acc).map (fun v => v * 10 + d) := by
  induction l generalizing acc with
  | nil =>
    have h1 : (48 + d).toUInt8.toNat = 48 + d := by
      simp [Nat.toUInt8, UInt8.toNat_ofNat']; omega
    have h2 : (48 : UInt8) ≤ (48 + d).toUInt8 ∧ (48 + d).toUInt8 ≤ 57 := by
      rw [UInt8.le_iff_toNat_le, UInt8.le_iff_toNat_le, h1]
      exact ⟨by simp, by simp; omega⟩
    generalize (48 + d).toUInt8 = b at h1 h2
    simp [digitsVal, h2, h1]
  | cons b r ih =>
    simp only [List.cons_append, digitsVal]
    split
    · exact ih _
    · rfl

theorem digitsVal_decBytes (k : Nat) : digitsVal (decBytes k) 0 = some k := by
  induction k using Nat.strongRecOn with
  | _ k ih =>
    by_cases h : k < 10
    · rw [decBytes_lt k h]
      have := digitsVal_snoc [] k h 0
      simpa [digitsVal] using this
    · rw [decBytes_ge k (by omega), digitsVal_snoc _ _ (Nat.mod_lt _ (by decide)), ih (k / 10) (by omega)]
      simp; omega

theorem decBytes_digit (k : Nat) : ∀ b ∈ decBytes k, (48 : UInt8) ≤ b ∧ b ≤ 57 := by
  intro b hb
  simp only [decBytes, List.mem_map] at hb
  obtain ⟨c, hc, rfl⟩ := hb
  have hd := Nat.isDigit_of_mem_toDigits (by decide) (by decide) hc
  simp only [Char.isDigit, ge_iff_le, Bool.and_eq_true, decide_eq_true_eq] at hd
  have h1 : 48 ≤ c.toNat ∧ c.toNat ≤ 57 := by
    obtain ⟨a, b⟩ := hd
    rw [UInt32.le_iff_toNat_le] at a b
    exact ⟨a, b⟩
  have h2 : c.toNat.toUInt8.toNat = c.toNat := by
    simp [Nat.toUInt8, UInt8.toNat_ofNat']; omega
  rw [UInt8.le_iff_toNat_le, UInt8.le_iff_toNat_le, h2]
  exact h1

theorem decBytes_ne_nil (k : Nat) : decBytes k ≠ [] := by
  simp [decBytes]

theorem atoi_natBytes (k : Nat) (h : k < 100000) : Go.atoi (Spec.Net.natBytes k) = (k : Int) := by
  rw [natBytes_eq_decBytes]
  have hne := decBytes_ne_nil k
  have hdig := decBytes_digit k
  have hv := digitsVal_decBytes k
  cases hs : decBytes k with
  | nil => exact absurd hs hne
  | cons b r =>
    rw [hs] at hdig hv
    have hb := hdig b (by simp)
    have h43 : b ≠ 43 := by rintro rfl; exact absurd hb.1 (by decide)
    have h45 : b ≠ 45 := by rintro rfl; exact absurd hb.1 (by decide)
    unfold Go.atoi
    split
    rename_i neg body heq
    have : neg = false ∧ body = b :: r := by
      split at heq
      · rename_i h; exact absurd (List.cons.inj h).1 h43
      · rename_i h; exact absurd (List.cons.inj h).1 h45
      · exact ⟨(Prod.mk.inj heq).1.symm, (Prod.mk.inj heq).2.symm⟩
    obtain ⟨rfl, rfl⟩ := this
    simp only [List.isEmpty_cons, Bool.false_eq_true, ↓reduceIte, hv]
    have : ¬ k > 9223372036854775807 := by omega
    simp [this]

theorem natBytes_midOk (k : Nat) : midOk (Spec.Net.natBytes k) = true := by
  rw [natBytes_eq_decBytes]
  have hne := decBytes_ne_nil k
  have hdig := decBytes_digit k
  cases hs : decBytes k with
  | nil => exact absurd hs hne
  | cons b r =>
    rw [hs] at hdig
    have hb := hdig b (by simp)
    simp only [midOk, List.isEmpty_cons, Bool.not_false, List.head?_cons, Bool.true_and, Bool.and_eq_true,
      bne_iff_ne, ne_eq, Option.some.injEq, List.all_eq_true, decide_eq_true_eq]
    refine ⟨?_, ?_⟩
    · rintro rfl; exact absurd hb.2 (by decide)
    · intro x hx
      have := hdig x hx
      rw [UInt8.le_iff_toNat_le, UInt8.le_iff_toNat_le] at this
      rw [UInt8.lt_iff_toNat_lt, UInt8.lt_iff_toNat_lt]
      simp at this ⊢; omega

theorem toString_int_ofNat (m : Nat) : toString (Int.ofNat m) = toString m := rfl

theorem atoi_toString_int (z : Int) (h0 : 0 ≤ z) (h1 : z < 100000) : Go.atoi (lit (toString z)) = z := by
  obtain ⟨m, rfl⟩ := Int.eq_ofNat_of_zero_le h0
  have := atoi_natBytes m (by omega)
  exact this

theorem toString_int_midOk (z : Int) (h0 : 0 ≤ z) : midOk (lit (toString z)) = true := by
  obtain ⟨m, rfl⟩ := Int.eq_ofNat_of_zero_le h0
  exact natBytes_midOk m

end Proofs.C13
