import Goirc.Model.Line
import Goirc.Spec.Irc
import Goirc.Proofs.Strings
import Goirc.Proofs.ListLemmas
/-!
# Lemmas about the model of line.go that C01 and C02 share

Tag escaping (`unescape_escape`), the two outer stages of `parseLine` as a test of the first byte (`parseSource_cons`,
`parseLine_cons`), `accessors_consistent`, and `recv`'s framing of CRLF-terminated lines.
-/
namespace Go
open Spec.Irc

theorem unescapeTag_cons_ne (x : UInt8) (xs : Bytes) (h : x ≠ 92) : unescapeTag (x :: xs) = x :: unescapeTag xs := by
  cases xs with
  | nil => simp [unescapeTag]
  | cons y ys => simp [unescapeTag, h]

theorem unescapeTag_esc1 (x : UInt8) (r : Bytes) : unescapeTag (esc1 x ++ r) = x :: unescapeTag r := by
  fun_cases esc1 x
  case case6 _ _ h _ _ => exact unescapeTag_cons_ne x r (by simpa using h)
  all_goals simp_all [unescapeTag, unesc1]

theorem unescape_escape (v : Bytes) : unescapeTag (escapeTag v) = v := by
  induction v with
  | nil => rfl
  | cons x xs ih => rw [escapeTag, unescapeTag_esc1, ih]

theorem esc1_not_mem (x : UInt8) : (32 : UInt8) ∉ esc1 x ∧ (59 : UInt8) ∉ esc1 x := by
  fun_cases esc1 x
  case case6 h59 h32 _ _ _ =>
    simp only [List.mem_singleton]
    exact ⟨fun e => h32 (by simp [← e]), fun e => h59 (by simp [← e])⟩
  all_goals decide

theorem escapeTag_not_mem (v : Bytes) : (32 : UInt8) ∉ escapeTag v ∧ (59 : UInt8) ∉ escapeTag v := by
  induction v with
  | nil => simp [escapeTag]
  | cons x v ih =>
    simp only [escapeTag, List.mem_append, not_or]
    exact ⟨⟨(esc1_not_mem x).1, ih.1⟩, (esc1_not_mem x).2, ih.2⟩

/-- `parseSource` in the shape line.go and both transcriptions of it have: a test of the first byte -/
theorem parseSource_cons (ext : UnicodeExt) (l : Line) (x : UInt8) (s : Bytes) :
    parseSource ext l (x :: s) =
      if x == 58 then
        match indexByte (x :: s) 32 with
        | some idx => parseRest ext (withSource l (((x :: s).take idx).drop 1)) ((x :: s).drop (idx + 1))
        | none => none
      else parseRest ext l (x :: s) := by
  by_cases hx : x = 58
  · subst hx; rfl
  · rw [if_neg (by simpa using hx)]
    exact parseSource.eq_3 ext l _ (fun e => nomatch e) (fun t e => hx (List.cons.inj e).1)

theorem parseLine_cons (ext : UnicodeExt) (x : UInt8) (s : Bytes) :
    parseLine ext (x :: s) =
      if x == 64 then
        match indexByte (x :: s) 32 with
        | some idx =>
          parseSource ext { raw := x :: s, tags := some (parseTags (((x :: s).take idx).drop 1)) } ((x :: s).drop (idx + 1))
        | none => none
      else parseSource ext { raw := x :: s } (x :: s) := by
  by_cases hx : x = 64
  · subst hx; rfl
  · rw [if_neg (by simpa using hx)]
    exact parseLine.eq_3 ext _ (fun e => nomatch e) (fun t e => hx (List.cons.inj e).1)

theorem Line.target_of_other (l : Line)
    (h : (l.cmd == PRIVMSG || l.cmd == NOTICE || l.cmd == ACTION || l.cmd == CTCP || l.cmd == CTCPREPLY) = false) :
    l.target = l.args.head?.getD [] := by
  simp only [Bool.or_eq_false_iff] at h
  simp [Line.target, h]

theorem accessors_consistent (l : Line) : accessorsOk l l.text l.public l.target = true := by
  unfold accessorsOk Line.text Line.target Line.public
  by_cases h1 : (l.cmd == PRIVMSG || l.cmd == NOTICE || l.cmd == ACTION) = true
  · simp only [h1, if_true, Bool.true_or, Bool.true_and]
    have h2 : (l.cmd == CTCP || l.cmd == CTCPREPLY) = false := by
      simp only [Bool.or_eq_true, beq_iff_eq] at h1
      rcases h1 with (h | h) | h <;> rw [h] <;> decide
    simp only [h2, Bool.false_eq_true, if_false]
    rcases hl : l.args with _ | ⟨a, rest⟩
    · simp
    · cases a with
      | nil => simp
      | cons b a' => cases hb : isChanPrefix b <;> simp [hb]
  · simp only [Bool.not_eq_true] at h1
    simp only [h1, Bool.false_eq_true, if_false, Bool.false_or]
    by_cases h2 : (l.cmd == CTCP || l.cmd == CTCPREPLY) = true
    · simp only [h2, if_true, Bool.true_and]
      rcases hl : l.args with _ | ⟨a0, rest⟩
      · simp
      · rcases rest with _ | ⟨a, rest'⟩
        · simp
        · cases a with
          | nil => simp
          | cons b a' => cases hb : isChanPrefix b <;> simp [hb]
    · simp only [Bool.not_eq_true] at h2
      simp [h2]

theorem trimCRLF_line (l : Bytes) (h13 : (13 : UInt8) ∉ l) (h10 : (10 : UInt8) ∉ l) :
    trimCRLF (l ++ [13, 10]) = l :=
  List.trim_append _ [] l [13, 10] (by simp) (by simp) fun x hx => by
    have a : x ≠ 13 := fun e => h13 (e ▸ hx)
    have b : x ≠ 10 := fun e => h10 (e ▸ hx)
    simp [a, b]

theorem recvFramesAux_line (acc l rest : Bytes) (h10 : (10 : UInt8) ∉ l) :
    recvFramesAux acc (l ++ 13 :: 10 :: rest) = recvTrim (acc.reverse ++ l ++ [13, 10]) :: recvFramesAux [] rest := by
  induction l generalizing acc with
  | nil =>
    rw [List.nil_append, recvFramesAux.eq_3 _ _ _ (by decide), recvFramesAux.eq_2]
    simp
  | cons x l ih =>
    simp only [List.mem_cons, not_or] at h10
    have hx : x ≠ 10 := fun e => h10.1 e.symm
    rw [List.cons_append, recvFramesAux.eq_3 _ _ _ (fun e => hx e), ih _ h10.2]
    simp

end Go
