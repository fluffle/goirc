import Goirc.Proofs.C13InvAuxView
/-!
# C13, invariant of the model network: the ground truth part

`GInv n`: the fields of `NetInv` that do not mention the view.  `NetInv` is `GInv` plus the view invariant `VInv` over
`onChan n` (`NetInv.ground`, `NetInv.vinv`, `NetInv.of`; `sharesWithMe_iff` turns the one field that differs).  What the
event proofs read off the invariant about a name: `NetInv.user`, `NetInv.member`, `NetInv.nameOk_me`.  Then the
ground-truth updates of `serverStep` (`setChan`, `leave`, the quit fold `quitF`, the renaming `renM`/`renC`, `applyChange`,
and a join) are described by what they do to `onChan` and shown to keep `GInv`.
-/
namespace Proofs.C13
open Go Go.Tracker Spec.Tracker Spec.Net

structure GInv (n : Net) : Prop where
  me_user : AL.has n.users n.me = true
  users_ok : ∀ u x, AL.lookup n.users u = some x →
    nickOk u = true ∧ nameOk x.ident = true ∧ nameOk x.host = true ∧ textOk x.real = true
  chans_nodup : (AL.keys n.chans).Nodup
  chan_inv : ∀ c ch, AL.lookup n.chans c = some ch → ChanInv n c ch

theorem ChanInv.mono {n n' : Net} {c : Bytes} {ch : NChan} (h : ChanInv n c ch)
    (hu : ∀ u, AL.has n.users u = true → AL.has n'.users u = true) : ChanInv n' c ch :=
  ⟨h.name, h.topic, h.key, h.limit, h.members_nodup, fun u hu' => hu u (h.members_users u hu')⟩

theorem onChan_of_lookup {n : Net} {c : Bytes} {ch : NChan} (h : AL.lookup n.chans c = some ch) (u : Bytes) :
    onChan n u c = AL.has ch.members u := by simp only [onChan, h]

theorem onChan_of_none {n : Net} {c : Bytes} (h : AL.lookup n.chans c = none) (u : Bytes) :
    onChan n u c = false := by simp only [onChan, h]

theorem onChan_true_iff (n : Net) (u c : Bytes) :
    onChan n u c = true ↔ ∃ ch, AL.lookup n.chans c = some ch ∧ AL.has ch.members u = true := by
  cases h : AL.lookup n.chans c with
  | none => simp [onChan_of_none h]
  | some ch => simp [onChan_of_lookup h]

theorem onChan_users {n : Net} (h : GInv n) {u c : Bytes} (ho : onChan n u c = true) : AL.has n.users u = true := by
  obtain ⟨ch, h1, h2⟩ := (onChan_true_iff n u c).1 ho
  exact (h.chan_inv c ch h1).members_users u h2

theorem GInv.not_onChan {n : Net} (h : GInv n) {w : Bytes} (hw : AL.has n.users w = false) (c : Bytes) :
    onChan n w c = false :=
  Bool.eq_false_iff.2 fun ho => by rw [onChan_users h ho] at hw; cases hw

theorem sharesWithMe_iff (n : Net) (hnd : (AL.keys n.chans).Nodup) (u : Bytes) :
    sharesWithMe n u = true ↔ ∃ c, onChan n u c = true ∧ onChan n n.me c = true := by
  simp only [sharesWithMe, List.any_eq_true, Bool.and_eq_true]
  constructor
  · rintro ⟨⟨c, ch⟩, hm, h1, h2⟩
    have hl := (AL.mem_iff_lookup hnd c ch).1 hm
    exact ⟨c, by rw [onChan_of_lookup hl]; exact h1, by rw [onChan_of_lookup hl]; exact h2⟩
  · rintro ⟨c, h1, h2⟩
    obtain ⟨ch, hl, h3⟩ := (onChan_true_iff n u c).1 h1
    rw [onChan_of_lookup hl] at h2
    exact ⟨(c, ch), AL.mem_of_lookup hl, h3, h2⟩

theorem NetInv.ground {n : Net} (h : NetInv n) : GInv n := ⟨h.me_user, h.users_ok, h.chans_nodup, h.chan_inv⟩

theorem NetInv.vinv {n : Net} (h : NetInv n) : VInv n.me (onChan n) n.view := by
  refine ⟨h.me_view, h.view_chans, h.view_mem, fun u => ?_, h.view_mem_nodup⟩
  rw [h.view_nicks, Bool.or_eq_true, sharesWithMe_iff n h.chans_nodup, beq_iff_eq]

/-- `v` may be `n.view` itself -/
theorem NetInv.of {n : Net} {v : S} (hg : GInv n) (hv : VInv n.me (onChan n) v) : NetInv { n with view := v } := by
  refine ⟨hv.me_eq, hg.me_user, hg.users_ok, hg.chans_nodup, fun c ch hl => (hg.chan_inv c ch hl).mono fun _ => id,
    hv.chans, hv.mem, fun u => ?_, hv.mem_nodup⟩
  show AL.has v.nicks u = (u == n.me || sharesWithMe n u)
  rw [Bool.eq_iff_iff, hv.nicks, Bool.or_eq_true, sharesWithMe_iff n hg.chans_nodup, beq_iff_eq]

theorem NetInv.view_users {n : Net} (hi : NetInv n) {w : Bytes} (hw : AL.has n.view.nicks w = true) :
    AL.has n.users w = true := by
  rcases (hi.vinv.nicks w).1 hw with rfl | ⟨c, hc, -⟩
  · exact hi.me_user
  · exact onChan_users hi.ground hc

theorem nameOk_of_nickOk {s : Bytes} (h : nickOk s = true) : nameOk s = true := by
  simp only [nickOk, Bool.and_eq_true] at h; exact h.1

theorem nameOk_of_chanOk {s : Bytes} (h : chanOk s = true) : nameOk s = true := by
  simp only [chanOk, Bool.and_eq_true] at h; exact h.2

/-- `userMask` is `nick!ident@host` -/
theorem NetInv.user {n : Net} (hi : NetInv n) {u : Bytes} {x : NUser} (h : AL.lookup n.users u = some x) :
    nameOk u = true ∧ nameOk x.ident = true ∧ nameOk x.host = true ∧
      userMask n u = u ++ [33] ++ x.ident ++ [64] ++ x.host :=
  have ok := hi.users_ok u x h
  ⟨nameOk_of_nickOk ok.1, ok.2.1, ok.2.2.1, by simp only [userMask, h]⟩

theorem NetInv.member {n : Net} (hi : NetInv n) {u c : Bytes} (h : onChan n u c = true) :
    chanOk c = true ∧ nameOk c = true ∧ ∃ x, AL.lookup n.users u = some x := by
  obtain ⟨ch, h1, h2⟩ := (onChan_true_iff n u c).1 h
  have ci := hi.chan_inv c ch h1
  exact ⟨ci.name, nameOk_of_chanOk ci.name, (AL.has_true_iff _ _).1 (ci.members_users u h2)⟩

theorem NetInv.nameOk_me {n : Net} (hi : NetInv n) : nameOk n.me = true := by
  obtain ⟨x, hx⟩ := (AL.has_true_iff _ _).1 hi.me_user
  exact (hi.user hx).1

theorem onChan_setChan (n : Net) (c : Bytes) (ch : NChan) (u c' : Bytes) :
    onChan (setChan n c ch) u c' = if c' = c then AL.has ch.members u else onChan n u c' := by
  simp only [onChan, setChan, AL.lookup_insert]
  by_cases h : c = c'
  · subst h; simp
  · have : ¬ c' = c := fun h1 => h h1.symm
    simp [h, this]

theorem GInv.setChan {n : Net} (h : GInv n) {c : Bytes} {ch : NChan} (hc : ChanInv n c ch) : GInv (setChan n c ch) := by
  refine ⟨h.me_user, h.users_ok, AL.nodup_insert h.chans_nodup _ _, ?_⟩
  intro c' ch' hl
  simp only [Spec.Net.setChan, AL.lookup_insert] at hl
  split at hl
  · rename_i h1; subst h1; cases hl; exact hc.mono (fun _ => id)
  · exact (h.chan_inv c' ch' hl).mono (fun _ => id)

theorem onChan_setChan_same {n : Net} {c : Bytes} {ch ch' : NChan} (hl : AL.lookup n.chans c = some ch)
    (hm : ∀ u, AL.has ch'.members u = AL.has ch.members u) (u c' : Bytes) :
    onChan (setChan n c ch') u c' = onChan n u c' := by
  rw [onChan_setChan]
  split
  · rename_i h; subst h; rw [hm, onChan_of_lookup hl]
  · rfl

theorem leave_eq (n : Net) (u c : Bytes) : leave n u c =
    match AL.lookup n.chans c with
    | some ch =>
      if (AL.erase ch.members u).isEmpty then { n with chans := AL.erase n.chans c }
      else setChan n c { ch with members := AL.erase ch.members u }
    | none => n := rfl

theorem leave_users (n : Net) (u c : Bytes) : (leave n u c).users = n.users := by
  rw [leave_eq]; split
  · split <;> rfl
  · rfl

theorem leave_me (n : Net) (u c : Bytes) : (leave n u c).me = n.me := by
  rw [leave_eq]; split
  · split <;> rfl
  · rfl

theorem leave_view (n : Net) (u c : Bytes) : (leave n u c).view = n.view := by
  rw [leave_eq]; split
  · split <;> rfl
  · rfl

theorem onChan_leave (n : Net) (u c w c' : Bytes) :
    onChan (leave n u c) w c' = (onChan n w c' && !(decide (c' = c) && decide (w = u))) := by
  unfold leave
  cases hl : AL.lookup n.chans c with
  | none =>
    simp only
    by_cases h : c' = c
    · subst h; simp [onChan_of_none hl]
    · simp [h]
  | some ch =>
    simp only
    split
    · rename_i he
      have := AL.has_of_isEmpty he w
      rw [AL.has_erase] at this
      simp only [onChan, AL.lookup_erase]
      by_cases h : c = c'
      · subst h; simp only [if_true, hl]; grind
      · have : ¬ c' = c := fun h1 => h h1.symm
        simp [h, this]
    · rw [onChan_setChan]
      by_cases h : c' = c
      · subst h; simp only [if_true, onChan_of_lookup hl, AL.has_erase]; grind
      · simp [h]

theorem GInv.eraseChan {n : Net} (h : GInv n) (c : Bytes) : GInv { n with chans := AL.erase n.chans c } := by
  refine ⟨h.me_user, h.users_ok, AL.nodup_erase h.chans_nodup _, fun c' ch' hl => ?_⟩
  change AL.lookup (AL.erase n.chans c) c' = some ch' at hl
  rw [AL.lookup_erase] at hl
  split at hl
  · cases hl
  · exact (h.chan_inv c' ch' hl).mono fun _ => id

theorem GInv.leave {n : Net} (h : GInv n) (u c : Bytes) : GInv (leave n u c) := by
  rw [leave_eq]; split
  · rename_i ch hl
    have ci := h.chan_inv c ch hl
    split
    · exact h.eraseChan c
    · refine h.setChan ⟨ci.name, ci.topic, ci.key, ci.limit, AL.nodup_erase ci.members_nodup _, fun w hw => ?_⟩
      rw [AL.has_erase, Bool.and_eq_true] at hw
      exact ci.members_users w hw.2
  · exact h

abbrev quitF (u : Bytes) (acc : Net) (c : Bytes) : Net := if onChan acc u c then leave acc u c else acc

theorem quitF_spec (u : Bytes) (n : Net) (c : Bytes) (h : GInv n) :
    GInv (quitF u n c) ∧ (quitF u n c).users = n.users ∧ (quitF u n c).me = n.me ∧ (quitF u n c).view = n.view ∧
    ∀ w c', onChan (quitF u n c) w c' = (onChan n w c' && !(decide (w = u) && decide (c' = c))) := by
  unfold quitF
  split
  · refine ⟨h.leave u c, leave_users n u c, leave_me n u c, leave_view n u c, fun w c' => ?_⟩
    rw [onChan_leave]; grind
  · refine ⟨h, rfl, rfl, rfl, fun w c' => ?_⟩
    grind

theorem foldl_quitF (u : Bytes) (ks : List Bytes) (n : Net) (h : GInv n) :
    GInv (ks.foldl (quitF u) n) ∧ (ks.foldl (quitF u) n).users = n.users ∧ (ks.foldl (quitF u) n).me = n.me ∧
    (ks.foldl (quitF u) n).view = n.view ∧
    ∀ w c', onChan (ks.foldl (quitF u) n) w c' = (onChan n w c' && !(decide (w = u) && decide (c' ∈ ks))) := by
  induction ks generalizing n with
  | nil => exact ⟨h, rfl, rfl, rfl, by simp⟩
  | cons a l ih =>
    rw [List.foldl_cons]
    obtain ⟨s1, s2, s3, s4, s5⟩ := quitF_spec u n a h
    obtain ⟨i1, i2, i3, i4, i5⟩ := ih (quitF u n a) s1
    refine ⟨i1, i2.trans s2, i3.trans s3, i4.trans s4, fun w c' => ?_⟩
    rw [i5, s5]; simp only [List.mem_cons]
    rw [Bool.decide_or, Bool.and_assoc, ← Bool.not_or, ← Bool.and_or_distrib_left]

theorem quit_ground {n : Net} (h : GInv n) {u : Bytes} (hu : u ≠ n.me) :
    let n1 := (AL.keys n.chans).foldl (quitF u) n
    GInv { n1 with users := AL.erase n1.users u } ∧ n1.me = n.me ∧ n1.view = n.view ∧
    ∀ w c', onChan n1 w c' = (onChan n w c' && !decide (w = u)) := by
  intro n1
  obtain ⟨i1, i2, i3, i4, i5⟩ := foldl_quitF u (AL.keys n.chans) n h
  have hon : ∀ w c', onChan n1 w c' = (onChan n w c' && !decide (w = u)) := by
    intro w c'
    rw [i5]
    cases ho : onChan n w c' with
    | false => rfl
    | true =>
      obtain ⟨ch, h1, _⟩ := (onChan_true_iff n w c').1 ho
      have : c' ∈ AL.keys n.chans := (AL.has_iff_mem_keys _ _).1 (AL.has_of_lookup h1)
      simp [this]
  refine ⟨⟨?_, ?_, i1.chans_nodup, ?_⟩, i3, i4, hon⟩
  · show AL.has (AL.erase n1.users u) n1.me = true
    rw [AL.has_erase, i1.me_user, i3]; simp [hu]
  · intro w x hl
    change AL.lookup (AL.erase n1.users u) w = some x at hl
    rw [AL.lookup_erase] at hl
    split at hl
    · cases hl
    · exact i1.users_ok w x hl
  · intro c ch hl
    change AL.lookup n1.chans c = some ch at hl
    have hi := i1.chan_inv c ch hl
    refine ⟨hi.name, hi.topic, hi.key, hi.limit, hi.members_nodup, fun w hw => ?_⟩
    show AL.has (AL.erase n1.users u) w = true
    rw [AL.has_erase, hi.members_users w hw]
    have := hon w c
    rw [onChan_of_lookup hl, hw] at this
    grind

def renM (u nw : Bytes) (ms : List (Bytes × ChanPrivs)) : List (Bytes × ChanPrivs) :=
  ms.map fun (m, p) => (if m == u then nw else m, p)

def renC (u nw : Bytes) (chans : List (Bytes × NChan)) : List (Bytes × NChan) :=
  chans.map fun (c, ch) => (c, { ch with members := ch.members.map fun (m, p) => (if m == u then nw else m, p) })

def nickNet (n : Net) (u nw : Bytes) : Net :=
  { n with users := AL.insert (AL.erase n.users u) nw ((AL.lookup n.users u).getD ⟨[], [], []⟩),
           chans := n.chans.map fun (c, ch) => (c, { ch with members := ch.members.map fun (m, p) => (if m == u then nw else m, p) }),
           me := if u == n.me then nw else n.me }

theorem has_renM {u nw : Bytes} (hne : u ≠ nw) (ms : List (Bytes × ChanPrivs)) (hfree : AL.has ms nw = false) (w : Bytes) :
    AL.has (renM u nw ms) w = if w = nw then AL.has ms u else if w = u then false else AL.has ms w := by
  induction ms with
  | nil => simp [renM, AL.has_nil]
  | cons e ms ih =>
    obtain ⟨a, p⟩ := e
    rw [AL.has_cons] at hfree
    simp only [Bool.or_eq_false_iff, decide_eq_false_iff_not] at hfree
    have ih := ih hfree.2
    simp only [renM, List.map_cons] at ih ⊢
    rw [AL.has_cons, ih, AL.has_cons, AL.has_cons]
    simp only [beq_iff_eq]
    have := hfree.1
    by_cases h1 : a = u
    · subst h1; simp only [if_true]; grind
    · simp only [h1, if_false]; grind

theorem nodup_renM {u nw : Bytes} (ms : List (Bytes × ChanPrivs)) (hfree : AL.has ms nw = false)
    (nd : (AL.keys ms).Nodup) : (AL.keys (renM u nw ms)).Nodup := by
  unfold AL.keys renM
  rw [List.map_map]
  apply AL.nodup_map_of_keys _ nd
  intro x hx y hy hxy
  obtain ⟨a, p⟩ := x
  obtain ⟨b, q⟩ := y
  have f1 : a ≠ nw := by intro h; subst h; rw [AL.has_of_mem hx] at hfree; cases hfree
  have f2 : b ≠ nw := by intro h; subst h; rw [AL.has_of_mem hy] at hfree; cases hfree
  simp only [Function.comp, beq_iff_eq] at hxy
  show a = b
  grind

theorem lookup_renC (u nw : Bytes) (chans : List (Bytes × NChan)) (c : Bytes) :
    AL.lookup (renC u nw chans) c = (AL.lookup chans c).map (fun ch => { ch with members := renM u nw ch.members }) :=
  AL.lookup_map_val (fun e : Bytes × NChan => ({ e.2 with members := renM u nw e.2.members } : NChan)) chans c

theorem keys_renC (u nw : Bytes) (chans : List (Bytes × NChan)) : AL.keys (renC u nw chans) = AL.keys chans :=
  AL.keys_map_val (fun e : Bytes × NChan => ({ e.2 with members := renM u nw e.2.members } : NChan)) chans

theorem nick_ground {n : Net} (h : GInv n) {u nw : Bytes} (hu : AL.has n.users u = true)
    (hnw : AL.has n.users nw = false) (hok : nickOk nw = true) :
    GInv (nickNet n u nw) ∧
    ∀ w c, onChan (nickNet n u nw) w c = if w = nw then onChan n u c else if w = u then false else onChan n w c := by
  have hne : u ≠ nw := by intro h1; subst h1; rw [hu] at hnw; cases hnw
  have hfree : ∀ c ch, AL.lookup n.chans c = some ch → AL.has ch.members nw = false := fun c ch hl => by
    rw [← onChan_of_lookup hl]; exact h.not_onChan hnw c
  obtain ⟨x, hx⟩ := (AL.has_true_iff _ _).1 hu
  have hus : ∀ w, AL.has (nickNet n u nw).users w = (decide (nw = w) || (!decide (u = w) && AL.has n.users w)) := by
    intro w; show AL.has (AL.insert (AL.erase n.users u) nw _) w = _
    rw [AL.has_insert, AL.has_erase]
  have hch : ∀ c, AL.lookup (nickNet n u nw).chans c =
      (AL.lookup n.chans c).map (fun ch => { ch with members := renM u nw ch.members }) := lookup_renC u nw n.chans
  refine ⟨⟨?_, ?_, ?_, ?_⟩, ?_⟩
  · rw [hus, show (nickNet n u nw).me = if u == n.me then nw else n.me from rfl]
    by_cases h1 : u = n.me
    · simp [h1]
    · simp [h1, h.me_user]
  · intro w y hl
    change AL.lookup (AL.insert (AL.erase n.users u) nw ((AL.lookup n.users u).getD ⟨[], [], []⟩)) w = some y at hl
    rw [AL.lookup_insert, AL.lookup_erase, hx] at hl
    split at hl
    · rename_i h1; subst h1
      simp only [Option.getD_some, Option.some.injEq] at hl
      subst hl
      exact ⟨hok, (h.users_ok u x hx).2⟩
    · split at hl
      · cases hl
      · exact h.users_ok w y hl
  · show (AL.keys (renC u nw n.chans)).Nodup
    rw [keys_renC]; exact h.chans_nodup
  · intro c ch' hl
    rw [hch] at hl
    obtain ⟨ch, hl0, rfl⟩ := Option.map_eq_some_iff.1 hl
    have hi := h.chan_inv c ch hl0
    refine ⟨hi.name, hi.topic, hi.key, hi.limit, nodup_renM _ (hfree c ch hl0) hi.members_nodup, fun w hw => ?_⟩
    rw [hus]
    rw [has_renM hne _ (hfree c ch hl0)] at hw
    have := hi.members_users w
    grind
  · intro w c
    simp only [onChan]
    rw [hch]
    cases hl0 : AL.lookup n.chans c with
    | none => simp
    | some ch =>
      simp only [Option.map_some]
      exact has_renM hne _ (hfree c ch hl0) w

/-- every branch of `applyChanFlag` writes one Boolean field: the two projections go through the chain of `if`s
(splitting the chain instead is very slow to check) -/
theorem applyFlag_key_limit (m : ChanMode) (a : Bool) (l : UInt8) :
    (applyFlag m a l).key = m.key ∧ (applyFlag m a l).limit = m.limit := by
  simp only [applyFlag, applyChanFlag, apply_ite (Option.getD · m), apply_ite ChanMode.key, apply_ite ChanMode.limit,
    Option.getD_some, Option.getD_none, ite_self, and_self]

theorem applyChange_spec {n : Net} {c : Bytes} {ch : NChan} (h : ChanInv n c ch) (chg : ModeChange)
    (hok : changeOk n c chg = true) :
    ChanInv n c (applyChange ch chg) ∧ ∀ w, AL.has (applyChange ch chg).members w = AL.has ch.members w := by
  cases chg with
  | flag a l =>
    refine ⟨⟨h.name, h.topic, ?_, ?_, h.members_nodup, h.members_users⟩, fun _ => rfl⟩
    · show (applyFlag ch.modes a l).key = [] ∨ nameOk (applyFlag ch.modes a l).key = true
      rw [(applyFlag_key_limit _ _ _).1]; exact h.key
    · show 0 ≤ (applyFlag ch.modes a l).limit ∧ (applyFlag ch.modes a l).limit < 100000
      rw [(applyFlag_key_limit _ _ _).2]; exact h.limit
  | key a k =>
    refine ⟨⟨h.name, h.topic, ?_, h.limit, h.members_nodup, h.members_users⟩, fun _ => rfl⟩
    show (if a then k else []) = [] ∨ nameOk (if a then k else []) = true
    cases a
    · exact Or.inl rfl
    · exact Or.inr hok
  | limit a k =>
    refine ⟨⟨h.name, h.topic, h.key, ?_, h.members_nodup, h.members_users⟩, fun _ => rfl⟩
    show 0 ≤ (if a then (k : Int) else 0) ∧ (if a then (k : Int) else 0) < 100000
    simp only [changeOk, Bool.and_eq_true, decide_eq_true_eq] at hok
    cases a
    · simp
    · simp only [if_true]; omega
  | priv a l u =>
    simp only [applyChange]
    split
    · rename_i p hp
      refine ⟨⟨h.name, h.topic, h.key, h.limit, AL.nodup_insert h.members_nodup _ _, fun w hw => ?_⟩, fun w => ?_⟩
      · apply h.members_users
        rw [← AL.has_of_keys_eq (AL.keys_insert_of_has (AL.has_of_lookup hp) _) w]; exact hw
      · exact AL.has_of_keys_eq (AL.keys_insert_of_has (AL.has_of_lookup hp) _) w
    · exact ⟨h, fun _ => rfl⟩
  | ban a m => exact ⟨h, fun _ => rfl⟩

theorem foldl_applyChange_spec {n : Net} {c : Bytes} (chs : List ModeChange) {ch : NChan} (h : ChanInv n c ch)
    (hok : chs.all (changeOk n c) = true) :
    ChanInv n c (chs.foldl applyChange ch) ∧ ∀ w, AL.has (chs.foldl applyChange ch).members w = AL.has ch.members w := by
  induction chs generalizing ch with
  | nil => exact ⟨h, fun _ => rfl⟩
  | cons a l ih =>
    simp only [List.all_cons, Bool.and_eq_true] at hok
    obtain ⟨s1, s2⟩ := applyChange_spec h a hok.1
    obtain ⟨i1, i2⟩ := ih s1 hok.2
    exact ⟨i1, fun w => (i2 w).trans (s2 w)⟩

theorem join_ground {n : Net} (h : GInv n) {u c : Bytes} (hu : AL.has n.users u = true) (hc : chanOk c = true)
    (hn : onChan n u c = false) (p : ChanPrivs) :
    let ch0 := (AL.lookup n.chans c).getD {}
    let ch : NChan := { ch0 with members := ch0.members ++ [(u, p)] }
    GInv (setChan n c ch) ∧
    (∀ w, AL.has ch.members w = (onChan n w c || decide (w = u))) ∧
    ∀ w c', onChan (setChan n c ch) w c' = (onChan n w c' || (decide (w = u) && decide (c' = c))) := by
  intro ch0 ch
  -- a channel that is not there yet is the empty one
  have hm : ∀ w, AL.has ch0.members w = onChan n w c := fun w => by
    show AL.has ((AL.lookup n.chans c).getD {}).members w = _
    unfold onChan; cases AL.lookup n.chans c <;> rfl
  have hi : ChanInv n c ch0 := by
    show ChanInv n c ((AL.lookup n.chans c).getD {})
    cases hl : AL.lookup n.chans c with
    | none => exact ⟨hc, rfl, Or.inl rfl, by decide, List.nodup_nil, fun w hw => by cases hw⟩
    | some x => exact h.chan_inv c x hl
  have hms : ∀ w, AL.has ch.members w = (onChan n w c || decide (w = u)) := by
    intro w
    show AL.has (ch0.members ++ [(u, p)]) w = _
    rw [AL.has_append, hm, AL.has_cons, AL.has_nil]; grind
  refine ⟨h.setChan ⟨hc, hi.topic, hi.key, hi.limit, ?_, fun w hw => ?_⟩, hms, fun w c' => ?_⟩
  · show (AL.keys (ch0.members ++ [(u, p)])).Nodup
    rw [show AL.keys (ch0.members ++ [(u, p)]) = AL.keys ch0.members ++ [u] by simp [AL.keys], List.nodup_append]
    refine ⟨hi.members_nodup, by simp, fun a ha b hb hab => ?_⟩
    rw [hab, List.mem_singleton.1 hb, ← AL.has_iff_mem_keys, hm, hn] at ha
    cases ha
  · rw [hms] at hw
    simp only [Bool.or_eq_true, decide_eq_true_eq] at hw
    rcases hw with hw | hw
    · exact onChan_users h hw
    · rw [hw]; exact hu
  · rw [onChan_setChan]
    split
    · rename_i h1; subst h1; rw [hms]; simp
    · rename_i h1; simp [h1]

end Proofs.C13
