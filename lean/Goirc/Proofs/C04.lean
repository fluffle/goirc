import Goirc.Spec.HSet
import Goirc.Proofs.AList
/-!
# C04: the handler set (doubly linked lists in a node heap) refines "name ↦ handlers in registration order"

`remove` and `add` are each unfolded once into heap updates (`remove_eq`, `add_eq`). `DL hs l ids`: the list head `l` threads exactly
the nodes `ids`, in that order, forwards and backwards; it speaks of positions. `Seg` says the same by recursion on the list and
with open ends (`DL.iff_seg`), and the pointer updates are proved on it, by splitting the list at a node (`Seg.append`): unlinking
`k` from `a ++ k :: b` leaves `a ++ b` (`DL.unlink`), a new node at the end gives `ids ++ [n]` (`DL.add`), and the two walks read
`ids` off. `Inv` ties heap and Spec together name by name (`Rel`: no list on either side, or a `DL` over the Spec's ids with the
right events and handlers); `Inv.add` and `Inv.remove` keep it.
-/
theorem List.filter_ne_append_cons {α : Type} [BEq α] [LawfulBEq α] {a b : List α} {k : α} (nd : (a ++ k :: b).Nodup) :
    (a ++ k :: b).filter (· != k) = a ++ b := by
  rw [← nd.erase_eq_filter, List.erase_append_right _ fun hc => (List.nodup_append.1 nd).2.2 k hc k List.mem_cons_self rfl,
    List.erase_cons_head]

namespace Go.HSet

theorem getNode_setNode (hs : HS) (i : Id) (nd : Node) (j : Id) :
    getNode (setNode hs i nd) j = if i = j then nd else getNode hs j := by
  unfold getNode setNode
  rw [AL.lookup_insert]
  split <;> rfl

@[simp] theorem setNode_set (hs : HS) (i : Id) (nd : Node) : (setNode hs i nd).set = hs.set := rfl
@[simp] theorem setNode_fresh (hs : HS) (i : Id) (nd : Node) : (setNode hs i nd).fresh = hs.fresh := rfl

theorem keys_setNode (hs : HS) (i : Id) (nd : Node) :
    AL.keys (setNode hs i nd).nodes = if i ∈ AL.keys hs.nodes then AL.keys hs.nodes else AL.keys hs.nodes ++ [i] :=
  AL.keys_insert hs.nodes i nd

theorem keys_setNode_of_mem (hs : HS) (i : Id) (nd : Node) (h : i ∈ AL.keys hs.nodes) :
    AL.keys (setNode hs i nd).nodes = AL.keys hs.nodes := by
  rw [keys_setNode, if_pos h]

@[simp] theorem getNode_withSet (hs : HS) (x : List (Bytes × HL)) (i : Id) :
    getNode { hs with set := x } i = getNode hs i := rfl

theorem getNode_mk (hs : HS) (s : List (Bytes × HL)) (f : Id) (i : Id) :
    getNode { nodes := hs.nodes, set := s, fresh := f } i = getNode hs i := rfl

/-- `if o != nil { o.f = v }`: the shape of every pointer update in `add` and `remove` -/
def modify (hs : HS) (o : Option Id) (f : Node → Node) : HS :=
  match o with
  | none => hs
  | some i => setNode hs i (f (getNode hs i))

theorem getNode_modify (hs : HS) (o : Option Id) (f : Node → Node) (j : Id) :
    getNode (modify hs o f) j = if o = some j then f (getNode hs j) else getNode hs j := by
  cases o with
  | none => rfl
  | some i =>
    simp only [modify, getNode_setNode, Option.some.injEq]
    split
    · next h => rw [h]
    · rfl

theorem modify_fresh (hs : HS) (o : Option Id) (f : Node → Node) : (modify hs o f).fresh = hs.fresh := by
  cases o <;> rfl

theorem keys_modify (hs : HS) (o : Option Id) (f : Node → Node) (h : ∀ i, o = some i → i ∈ AL.keys hs.nodes) :
    AL.keys (modify hs o f).nodes = AL.keys hs.nodes := by
  cases o with
  | none => rfl
  | some i => exact keys_setNode_of_mem hs i _ (h i rfl)

/-- the pointer updates of `remove`: `hn.next.prev = hn.prev`, `hn.prev.next = hn.next`, then clear `hn` -/
def unlink (hs : HS) (k : Id) : HS :=
  let n := getNode hs k
  modify (modify (modify hs n.next ({ · with prev := n.prev })) n.prev ({ · with next := n.next }))
    (some k) ({ · with next := none, prev := none, live := false })

/-- the list header `remove` leaves behind -/
def unlinkHL (hs : HS) (k : Id) (l : HL) : HL :=
  ⟨if (getNode hs k).prev = none then (getNode hs k).next else l.start,
   if (getNode hs k).next = none then (getNode hs k).prev else l.«end»⟩

theorem remove_eq (hs : HS) (k : Id) (l : HL) (hl : AL.lookup hs.set (getNode hs k).event = some l) :
    remove hs k = { unlink hs k with
      set := AL.put hs.set (getNode hs k).event
        (if (unlinkHL hs k l).start.isNone || (unlinkHL hs k l).«end».isNone then none else some (unlinkHL hs k l)) } := by
  unfold remove unlink unlinkHL
  simp only [hl]
  cases hn : (getNode hs k).next <;> cases hp : (getNode hs k).prev <;>
    simp only [modify, if_true, reduceCtorEq, if_false] <;> split <;> rfl

theorem getNode_unlink (hs : HS) (k i : Id) :
    getNode (unlink hs k) i =
      if i = k then { getNode hs k with next := none, prev := none, live := false }
      else { getNode hs i with
               next := if (getNode hs k).prev = some i then (getNode hs k).next else (getNode hs i).next,
               prev := if (getNode hs k).next = some i then (getNode hs k).prev else (getNode hs i).prev } := by
  unfold unlink
  simp only [getNode_modify, Option.some.injEq]
  by_cases hik : i = k
  · subst hik
    rw [if_pos rfl, if_pos rfl]
    split <;> split <;> rfl
  · rw [if_neg (fun c => hik c.symm), if_neg hik]
    split <;> split <;> rfl

theorem keys_unlink (hs : HS) (k : Id) (hk : k ∈ AL.keys hs.nodes)
    (h1 : ∀ i, (getNode hs k).next = some i → i ∈ AL.keys hs.nodes)
    (h2 : ∀ i, (getNode hs k).prev = some i → i ∈ AL.keys hs.nodes) :
    AL.keys (unlink hs k).nodes = AL.keys hs.nodes := by
  have e1 := keys_modify hs _ ({ · with prev := (getNode hs k).prev }) h1
  have e2 := keys_modify _ _ ({ · with next := (getNode hs k).next }) (fun i hi => e1 ▸ h2 i hi)
  exact (keys_modify _ _ _ (fun i hi => by cases hi; rw [e2, e1]; exact hk)).trans (e2.trans e1)

theorem unlink_fresh (hs : HS) (k : Id) : (unlink hs k).fresh = hs.fresh := by
  simp only [unlink, modify_fresh]

theorem getNode_remove (hs : HS) (k : Id) (l : HL) (hl : AL.lookup hs.set (getNode hs k).event = some l) (i : Id) :
    getNode (remove hs k) i = getNode (unlink hs k) i := by
  rw [remove_eq hs k l hl]; rfl

theorem lookup_remove_set (hs : HS) (k : Id) (l : HL) (hl : AL.lookup hs.set (getNode hs k).event = some l)
    (name : Bytes) :
    AL.lookup (remove hs k).set name =
      if (getNode hs k).event = name then
        if (unlinkHL hs k l).start.isNone || (unlinkHL hs k l).«end».isNone then none else some (unlinkHL hs k l)
      else AL.lookup hs.set name := by
  rw [remove_eq hs k l hl]; exact AL.lookup_put ..

/-- the list `add` appends to; a name that has none yet gets one that starts at the new node -/
def addHL (hs : HS) (ev : Bytes) : HL := (AL.lookup hs.set ev).getD ⟨some hs.fresh, none⟩

/-- `add` does the same whether or not the name has a list, as in the Go code (`l = &hList{}` when absent) -/
theorem add_eq (ext : Go.UnicodeExt) (hs : HS) (ev0 : Bytes) (h : Nat) :
    add ext hs ev0 h =
      ({ modify (setNode hs hs.fresh { event := Go.toLower ext ev0, handler := h,
                                       prev := (addHL hs (Go.toLower ext ev0)).«end» })
           (addHL hs (Go.toLower ext ev0)).«end» ({ · with next := some hs.fresh }) with
         set := AL.insert hs.set (Go.toLower ext ev0) ⟨(addHL hs (Go.toLower ext ev0)).start, some hs.fresh⟩
         fresh := hs.fresh + 1 }, hs.fresh) := by
  unfold add addHL
  cases hl : AL.lookup hs.set (Go.toLower ext ev0) with
  | none => simp only [hl]; rfl
  | some l =>
    simp only [hl, Option.getD_some]
    -- the model writes the new node twice, without and then with `prev`
    cases he : l.«end» with
    | none => simp only [modify, getNode_mk, getNode_setNode, if_true]; simp only [setNode, AL.insert_insert]
    | some e =>
      simp only [modify, getNode_mk, getNode_setNode, if_true]; simp only [setNode, AL.insert_insert]
      -- `e` is read after that write
      split <;> rfl

theorem add_set (ext : Go.UnicodeExt) (hs : HS) (ev0 : Bytes) (h : Nat) :
    (add ext hs ev0 h).1.set =
      AL.insert hs.set (Go.toLower ext ev0) ⟨(addHL hs (Go.toLower ext ev0)).start, some hs.fresh⟩ := by
  rw [add_eq]

theorem add_fresh (ext : Go.UnicodeExt) (hs : HS) (ev0 : Bytes) (h : Nat) :
    (add ext hs ev0 h).1.fresh = hs.fresh + 1 := by
  rw [add_eq]

theorem getNode_add (ext : Go.UnicodeExt) (hs : HS) (ev0 : Bytes) (h : Nat)
    (hne : (addHL hs (Go.toLower ext ev0)).«end» ≠ some hs.fresh) (i : Id) :
    getNode (add ext hs ev0 h).1 i =
      if i = hs.fresh then
        { event := Go.toLower ext ev0, handler := h, prev := (addHL hs (Go.toLower ext ev0)).«end» }
      else if (addHL hs (Go.toLower ext ev0)).«end» = some i then { getNode hs i with next := some hs.fresh }
      else getNode hs i := by
  rw [add_eq, getNode_mk, getNode_modify, getNode_setNode]
  by_cases hi : i = hs.fresh
  · rw [hi, if_neg hne, if_pos rfl, if_pos rfl]
  · simp only [if_neg hi, if_neg (fun c : hs.fresh = i => hi c.symm)]

theorem keys_add (ext : Go.UnicodeExt) (hs : HS) (ev0 : Bytes) (h : Nat) (hf : hs.fresh ∉ AL.keys hs.nodes)
    (he : ∀ e, (addHL hs (Go.toLower ext ev0)).«end» = some e → e ∈ AL.keys hs.nodes) :
    AL.keys (add ext hs ev0 h).1.nodes = AL.keys hs.nodes ++ [hs.fresh] := by
  have e1 := keys_setNode hs hs.fresh
    { event := Go.toLower ext ev0, handler := h, prev := (addHL hs (Go.toLower ext ev0)).«end» }
  rw [if_neg hf] at e1
  rw [add_eq]
  exact (keys_modify _ _ _ fun e hi => e1 ▸ List.mem_append_left _ (he e hi)).trans e1

structure DL (hs : HS) (l : HL) (ids : List Id) : Prop where
  start : l.start = ids[0]?
  «end» : ∀ j, ids.length = j + 1 → l.«end» = ids[j]?
  next : ∀ j i, ids[j]? = some i → (getNode hs i).next = ids[j+1]?
  prev : ∀ j i, ids[j+1]? = some i → (getNode hs i).prev = ids[j]?
  prev0 : ∀ i, ids[0]? = some i → (getNode hs i).prev = none

/-- the nodes `ids` point at each other in this order, `p` comes before the first and `q` behind the last -/
def Seg (hs : HS) : Option Id → List Id → Option Id → Prop
  | _, [], _ => True
  | p, x :: t, q => (getNode hs x).prev = p ∧ (getNode hs x).next = t.head?.or q ∧ Seg hs (some x) t q

section
variable {hs hs' : HS} {l : HL} {p q p' q' : Option Id} {ids a b : List Id} {k : Id}

theorem Seg.iff_getElem? : Seg hs p ids q ↔
    (∀ j i, ids[j]? = some i → (getNode hs i).next = ids[j+1]?.or q) ∧
    (∀ i, ids[0]? = some i → (getNode hs i).prev = p) ∧
    (∀ j i, ids[j+1]? = some i → (getNode hs i).prev = ids[j]?) := by
  induction ids generalizing p with
  | nil => simp [Seg]
  | cons x t ih =>
    rw [Seg, ih, List.head?_eq_getElem?]
    constructor
    · rintro ⟨h1, h2, h3, h4, h5⟩
      refine ⟨fun j i hj => ?_, fun i hi => ?_, fun j i hj => ?_⟩
      · cases j with
        | zero => cases hj; exact h2
        | succ j => exact h3 j i hj
      · cases hi; exact h1
      · cases j with
        | zero => exact h4 i hj
        | succ j => exact h5 j i hj
    · rintro ⟨h1, h2, h3⟩
      exact ⟨h2 x rfl, h1 0 x rfl, fun j i hj => h1 (j+1) i hj, fun i hi => h3 0 i hi, fun j i hj => h3 (j+1) i hj⟩

theorem DL.iff_seg : DL hs l ids ↔ l.start = ids.head? ∧ (ids ≠ [] → l.«end» = ids.getLast?) ∧ Seg hs none ids none := by
  rw [Seg.iff_getElem?, List.head?_eq_getElem?, List.getLast?_eq_getElem?]
  simp only [Option.or_none]
  constructor
  · intro h
    refine ⟨h.start, fun hne => h.end _ ?_, h.next, h.prev0, h.prev⟩
    have := List.length_pos_iff.2 hne; omega
  · rintro ⟨h1, h2, h3, h4, h5⟩
    refine ⟨h1, fun j hj => ?_, h3, h5, h4⟩
    rw [h2 (List.ne_nil_of_length_pos (by omega)), hj]; rfl

theorem Seg.congr (h : Seg hs p ids q) (hc : ∀ i ∈ ids, getNode hs' i = getNode hs i) : Seg hs' p ids q := by
  induction ids generalizing p with
  | nil => trivial
  | cons x t ih =>
    have hx := hc x List.mem_cons_self
    exact ⟨hx ▸ h.1, hx ▸ h.2.1, ih h.2.2 fun i hi => hc i (List.mem_cons_of_mem _ hi)⟩

theorem Seg.frame {o : Option Id} {f : Node → Node} (h : Seg hs p ids q) (ho : ∀ i, o = some i → i ∉ ids) :
    Seg (modify hs o f) p ids q :=
  h.congr fun i hi => by rw [getNode_modify, if_neg fun hc => ho i hc hi]

theorem Seg.append : Seg hs p (a ++ b) q ↔ Seg hs p a (b.head?.or q) ∧ Seg hs (a.getLast?.or p) b q := by
  induction a generalizing p with
  | nil => simp [Seg]
  | cons x t ih =>
    simp only [List.cons_append, Seg, ih, List.head?_append, Option.or_assoc, and_assoc, List.getLast?_cons, Option.or_some,
      Option.some_or]

theorem Seg.set_next (nd : ids.Nodup) (h : Seg hs p ids q) :
    Seg (modify hs ids.getLast? ({ · with next := q' })) p ids q' := by
  rcases List.eq_nil_or_concat ids with rfl | ⟨a, z, rfl⟩
  · trivial
  · rw [List.concat_eq_append] at *
    rw [List.getLast?_concat]
    rw [Seg.append] at h ⊢
    refine ⟨h.1.frame fun i hi => ?_, ?_, ?_, trivial⟩
    · cases hi; exact fun hc => (List.nodup_append.1 nd).2.2 z hc z List.mem_cons_self rfl
    · rw [getNode_modify, if_pos rfl]; exact h.2.1
    · rw [getNode_modify, if_pos rfl]; rfl

theorem Seg.set_prev (nd : ids.Nodup) (h : Seg hs p ids q) :
    Seg (modify hs ids.head? ({ · with prev := p' })) p' ids q := by
  cases ids with
  | nil => trivial
  | cons x t =>
    rw [List.head?_cons]
    refine ⟨?_, ?_, h.2.2.frame fun i hi => ?_⟩
    · rw [getNode_modify, if_pos rfl]
    · rw [getNode_modify, if_pos rfl]; exact h.2.1
    · cases hi; exact (List.nodup_cons.1 nd).1

theorem DL.congr (h : DL hs l ids) (hc : ∀ i ∈ ids, getNode hs' i = getNode hs i) : DL hs' l ids :=
  have ⟨h1, h2, h3⟩ := DL.iff_seg.1 h
  DL.iff_seg.2 ⟨h1, h2, h3.congr hc⟩

theorem DL.unlink (nd : (a ++ k :: b).Nodup) (h : DL hs l (a ++ k :: b)) :
    DL (Go.HSet.unlink hs k) (unlinkHL hs k l) (a ++ b) := by
  obtain ⟨hst, hen, hseg⟩ := DL.iff_seg.1 h
  obtain ⟨ha, hp, hn, hb⟩ := Seg.append.1 hseg
  rw [Option.or_none] at hp hn
  obtain ⟨nda, ndkb, hab⟩ := List.nodup_append.1 nd
  obtain ⟨hkb, ndb⟩ := List.nodup_cons.1 ndkb
  have hka : k ∉ a := fun hc => hab k hc k List.mem_cons_self rfl
  have hdisj : ∀ i ∈ a, i ∉ b := fun i hi hc => hab i hi i (List.mem_cons_of_mem _ hc) rfl
  refine DL.iff_seg.2 ⟨?_, fun hne => ?_, Seg.append.2 ⟨?_, ?_⟩⟩
  · show (if (getNode hs k).prev = none then (getNode hs k).next else l.start) = _
    rw [hp, hn, hst]
    cases a <;> simp
  · show (if (getNode hs k).next = none then (getNode hs k).prev else l.«end») = _
    rw [hp, hn, hen (by simp)]
    cases b <;> simp
  -- the nodes before `k`: only the last is written, its `next`; those behind: only the first, its `prev`
  · simp only [Go.HSet.unlink, hp, hn, Option.or_none]
    refine ((ha.frame fun i hi hc => ?_).set_next nda).frame fun i hi => ?_
    · exact hdisj i hc (List.mem_of_mem_head? hi)
    · cases hi; exact hka
  · simp only [Go.HSet.unlink, hp, hn, Option.or_none]
    refine ((hb.set_prev ndb).frame fun i hi => ?_).frame fun i hi => ?_
    · exact hdisj i (List.mem_of_mem_getLast? hi)
    · cases hi; exact hkb

/-- the list may be empty: `l.start` then points at `n` already (`hst`) -/
theorem DL.add {n : Id} {nd0 : Node} (hn : n ∉ ids) (nd : ids.Nodup) (h : Seg hs none ids none)
    (hst : l.start = (ids ++ [n]).head?) (hen : l.«end» = ids.getLast?) (h1 : nd0.next = none) (h2 : nd0.prev = l.«end») :
    DL (modify (setNode hs n nd0) l.«end» ({ · with next := some n })) ⟨l.start, some n⟩ (ids ++ [n]) := by
  have hnew : getNode (modify (setNode hs n nd0) l.«end» ({ · with next := some n })) n = nd0 := by
    rw [getNode_modify, if_neg fun hc : l.«end» = some n => hn (List.mem_of_mem_getLast? (hen ▸ hc)), getNode_setNode, if_pos rfl]
  refine DL.iff_seg.2 ⟨hst, fun _ => List.getLast?_concat.symm, Seg.append.2 ⟨?_, ?_, ?_, trivial⟩⟩
  · rw [hen]
    exact (h.congr fun i hi => by rw [getNode_setNode, if_neg fun hc : n = i => hn (hc ▸ hi)]).set_next nd
  · rw [hnew, h2, hen, Option.or_none]
  · rw [hnew, h1]; rfl

theorem DL.next_mem (h : DL hs l ids) {i : Id} (hk : k ∈ ids) (hn : (getNode hs k).next = some i) : i ∈ ids := by
  obtain ⟨a, b, rfl⟩ := List.append_of_mem hk
  obtain ⟨_, _, hb, _⟩ := Seg.append.1 (DL.iff_seg.1 h).2.2
  rw [hb, Option.or_none] at hn
  exact List.mem_append_right _ (List.mem_cons_of_mem _ (List.mem_of_mem_head? hn))

theorem DL.prev_mem (h : DL hs l ids) {i : Id} (hk : k ∈ ids) (hn : (getNode hs k).prev = some i) : i ∈ ids := by
  obtain ⟨a, b, rfl⟩ := List.append_of_mem hk
  obtain ⟨_, ha, _⟩ := Seg.append.1 (DL.iff_seg.1 h).2.2
  rw [ha, Option.or_none] at hn
  exact List.mem_append_left _ (List.mem_of_mem_getLast? hn)

theorem Seg.walkFwd (h : Seg hs p ids none) (fuel : Nat) (hf : ids.length ≤ fuel) : walkFwd hs fuel ids.head? = ids := by
  induction ids generalizing p fuel with
  | nil => cases fuel <;> rfl
  | cons x t ih =>
    obtain ⟨f, rfl⟩ := Nat.exists_eq_add_one.2 (Nat.lt_of_lt_of_le (Nat.succ_pos _) hf)
    show x :: Go.HSet.walkFwd hs f (getNode hs x).next = _
    rw [h.2.1, Option.or_none, ih h.2.2 f (Nat.le_of_succ_le_succ hf)]

theorem Seg.walkBwd (h : Seg hs none ids q) (fuel : Nat) (hf : ids.length ≤ fuel) :
    walkBwd hs fuel ids.getLast? = ids.reverse := by
  induction fuel generalizing ids q with
  | zero => rw [List.length_eq_zero_iff.1 (Nat.le_zero.1 hf)]; rfl
  | succ f ih =>
    rcases List.eq_nil_or_concat ids with rfl | ⟨a, z, rfl⟩
    · rfl
    · rw [List.concat_eq_append] at *
      obtain ⟨ha, hz, _⟩ := Seg.append.1 h
      rw [List.getLast?_concat, List.reverse_concat]
      show z :: Go.HSet.walkBwd hs f (getNode hs z).prev = _
      rw [hz, Option.or_none, ih ha (by simpa using hf)]

end

theorem DL.getHandlers {hs : HS} {l : HL} {ids : List Id} (h : DL hs l ids) (hlen : ids.length ≤ hs.nodes.length) :
    walkFwd hs (hs.nodes.length + 1) l.start = ids := by
  obtain ⟨h1, _, h3⟩ := DL.iff_seg.1 h
  rw [h1]; exact h3.walkFwd _ (Nat.le_succ_of_le hlen)

theorem DL.walkBwd {hs : HS} {l : HL} {ids : List Id} (h : DL hs l ids) (hne : ids ≠ []) (hlen : ids.length ≤ hs.nodes.length) :
    walkBwd hs (hs.nodes.length + 1) l.«end» = ids.reverse ∧ l.start.isSome ∧ l.«end».isSome := by
  obtain ⟨h1, h2, h3⟩ := DL.iff_seg.1 h
  rw [h1, h2 hne]
  exact ⟨h3.walkBwd _ (Nat.le_succ_of_le hlen), List.isSome_head?.2 hne, List.getLast?_isSome.2 hne⟩

/-- `remove`'s test for dropping the list -/
theorem DL.isNone_or {hs : HS} {l : HL} {ids : List Id} (h : DL hs l ids) :
    (l.start.isNone || l.«end».isNone) = ids.isEmpty := by
  cases ids with
  | nil => rw [h.start]; rfl
  | cons a t => rw [h.start, h.end t.length rfl]; simp

end Go.HSet

namespace Spec.HSet
open Go.HSet

theorem remove_def (s : S) (k : Id) :
    remove s k = (s.map fun e => (e.1, e.2.filter (·.1 != k))).filter fun e => !e.2.isEmpty := rfl

theorem lookup_remove (s : S) (nd : (AL.keys s).Nodup) (k : Id) (name : Bytes) :
    AL.lookup (remove s k) name =
      (AL.lookup s name).bind fun L => if (L.filter (·.1 != k)).isEmpty then none else some (L.filter (·.1 != k)) := by
  rw [remove_def, AL.lookup_filter (by rw [AL.keys_map_val]; exact nd), AL.lookup_map_val]
  cases AL.lookup s name with
  | none => rfl
  | some L => simp only [Option.map_some, Option.bind_some]; cases (L.filter (·.1 != k)).isEmpty <;> rfl

theorem keys_remove_nodup (s : S) (nd : (AL.keys s).Nodup) (k : Id) : (AL.keys (remove s k)).Nodup := by
  rw [remove_def]; exact AL.nodup_filter (by rw [AL.keys_map_val]; exact nd) _

theorem lookup_remove_getD (s : S) (nd : (AL.keys s).Nodup) (k : Id) (name : Bytes) :
    ((AL.lookup (remove s k) name).getD []) = ((AL.lookup s name).getD []).filter (·.1 != k) := by
  rw [lookup_remove s nd]
  cases AL.lookup s name with
  | none => rfl
  | some L =>
    simp only [Option.bind_some, Option.getD_some]
    split
    · next h => exact (List.isEmpty_iff.1 h).symm
    · rfl

end Spec.HSet

namespace Go.HSet
open Spec.HSet

/-- `n` Removers handed out, those in `used` already used -/
structure Inv (hs : HS) (s : S) (n : Nat) (used : List Nat) : Prop where
  fresh : hs.fresh = n
  keys : AL.keys hs.nodes = List.range n
  snd : (AL.keys s).Nodup
  none_ : ∀ name, AL.lookup hs.set name = none → AL.lookup s name = none
  some_ : ∀ name l, AL.lookup hs.set name = some l →
    ∃ L, AL.lookup s name = some L ∧ L ≠ [] ∧ DL hs l (L.map (·.1))
  sub : ∀ name L, AL.lookup s name = some L → (L.map (·.1)).Sublist (List.range n)
  node : ∀ name L, AL.lookup s name = some L → ∀ p ∈ L,
    (getNode hs p.1).event = name ∧ (getNode hs p.1).handler = p.2
  unused : ∀ k, k < n → k ∉ used → ∃ L, AL.lookup s (getNode hs k).event = some L ∧ k ∈ L.map (·.1)

theorem Inv.init : Inv {} [] 0 [] := by
  refine ⟨rfl, rfl, by simp, fun _ _ => rfl, ?_, ?_, ?_, ?_⟩
  · intro name l h; cases h
  · intro name L h; cases h
  · intro name L h; cases h
  · intro k hk; omega

/-- What `Inv` says about one name, its map entry against its Spec entry (the fields `none_`, `some_`, `sub`, `node`). `Inv.add` and
`Inv.remove` work on this form, since they change the entry of one name (`Rel.frame` for the others). -/
def Rel (hs : HS) (n : Nat) (name : Bytes) : Option HL → Option (List (Id × Nat)) → Prop
  | none, none => True
  | some l, some L => L ≠ [] ∧ DL hs l (L.map (·.1)) ∧ (L.map (·.1)).Sublist (List.range n) ∧
      ∀ p ∈ L, (getNode hs p.1).event = name ∧ (getNode hs p.1).handler = p.2
  | _, _ => False

theorem Rel.none_left {hs : HS} {n : Nat} {name : Bytes} {oL : Option (List (Id × Nat))}
    (h : Rel hs n name none oL) : oL = none := by
  cases oL with
  | none => rfl
  | some L => exact h.elim

theorem Rel.some_left {hs : HS} {n : Nat} {name : Bytes} {l : HL} {oL : Option (List (Id × Nat))}
    (h : Rel hs n name (some l) oL) : ∃ L, oL = some L ∧ Rel hs n name (some l) (some L) := by
  cases oL with
  | none => exact h.elim
  | some L => exact ⟨L, rfl, h⟩

theorem Rel.some_right {hs : HS} {n : Nat} {name : Bytes} {ol : Option HL} {L : List (Id × Nat)}
    (h : Rel hs n name ol (some L)) : ∃ l, ol = some l ∧ Rel hs n name (some l) (some L) := by
  cases ol with
  | none => exact h.elim
  | some l => exact ⟨l, rfl, h⟩

theorem Rel.frame {hs hs' : HS} {n n' : Nat} {name : Bytes} {ol : Option HL} {oL : Option (List (Id × Nat))}
    (h : Rel hs n name ol oL) (hn : n ≤ n')
    (hnode : ∀ i, i < n → (getNode hs i).event = name → getNode hs' i = getNode hs i) : Rel hs' n' name ol oL := by
  cases ol <;> cases oL <;> try exact h
  next l L =>
  obtain ⟨h1, h2, h3, h4⟩ := h
  have hmem : ∀ p ∈ L, getNode hs' p.1 = getNode hs p.1 := fun p hp =>
    hnode _ (List.mem_range.1 (h3.subset (List.mem_map.2 ⟨p, hp, rfl⟩))) (h4 p hp).1
  exact ⟨h1, DL.congr h2 (List.forall_mem_map.2 hmem), h3.trans (List.range_sublist.2 hn), fun p hp => hmem p hp ▸ h4 p hp⟩

namespace Inv
variable {hs : HS} {s : S} {n : Nat} {used : List Nat}

theorem rel (I : Inv hs s n used) (name : Bytes) : Rel hs n name (AL.lookup hs.set name) (AL.lookup s name) := by
  cases hl : AL.lookup hs.set name with
  | none => rw [I.none_ name hl]; trivial
  | some l =>
    obtain ⟨L, h1, h2, h3⟩ := I.some_ name l hl
    rw [h1]; exact ⟨h2, h3, I.sub name L h1, I.node name L h1⟩

theorem of_rel (fresh : hs.fresh = n) (keys : AL.keys hs.nodes = List.range n) (snd : (AL.keys s).Nodup)
    (rel : ∀ name, Rel hs n name (AL.lookup hs.set name) (AL.lookup s name))
    (unused : ∀ k, k < n → k ∉ used → ∃ L, AL.lookup s (getNode hs k).event = some L ∧ k ∈ L.map (·.1)) :
    Inv hs s n used := by
  refine ⟨fresh, keys, snd, fun name hl => (hl ▸ rel name).none_left, fun name l hl => ?_, fun name L hL => ?_,
    fun name L hL => ?_, unused⟩
  · obtain ⟨L, e, h⟩ := (hl ▸ rel name).some_left
    exact ⟨L, e, h.1, h.2.1⟩
  · obtain ⟨l, _, h⟩ := (hL ▸ rel name).some_right
    exact h.2.2.1
  · obtain ⟨l, _, h⟩ := (hL ▸ rel name).some_right
    exact h.2.2.2

theorem lt (I : Inv hs s n used) {name : Bytes} {L : List (Id × Nat)} (h : AL.lookup s name = some L)
    {i : Id} (hi : i ∈ L.map (·.1)) : i < n :=
  List.mem_range.1 ((I.sub name L h).subset hi)

theorem nodup (I : Inv hs s n used) {name : Bytes} {L : List (Id × Nat)} (h : AL.lookup s name = some L) :
    (L.map (·.1)).Nodup := (I.sub name L h).nodup List.nodup_range

theorem len (I : Inv hs s n used) {name : Bytes} {L : List (Id × Nat)} (h : AL.lookup s name = some L) :
    (L.map (·.1)).length ≤ hs.nodes.length := by
  have hn : hs.nodes.length = n := by simpa [AL.keys] using congrArg List.length I.keys
  rw [hn]; simpa using (I.sub name L h).length_le

theorem mem_keys (I : Inv hs s n used) {i : Id} (h : i < n) : i ∈ AL.keys hs.nodes := by
  rw [I.keys]; exact List.mem_range.2 h

/-- a name's entry as `add` reads it, `L` being `[]` for a name without a list: the header is then `addHL`'s, whose start is the
node about to be allocated -/
theorem seg_addHL (I : Inv hs s n used) {ev : Bytes} {L : List (Id × Nat)} (hL : (AL.lookup s ev).getD [] = L) :
    Seg hs none (L.map (·.1)) none ∧
    (addHL hs ev).start = (L.map (·.1) ++ [n]).head? ∧ (addHL hs ev).«end» = (L.map (·.1)).getLast? ∧
    (L.map (·.1)).Sublist (List.range n) ∧ ∀ p ∈ L, (getNode hs p.1).event = ev ∧ (getNode hs p.1).handler = p.2 := by
  have hR := I.rel ev
  subst hL
  unfold Go.HSet.addHL
  cases hl : AL.lookup hs.set ev with
  | none =>
    rw [hl] at hR; rw [hR.none_left, I.fresh]
    exact ⟨trivial, rfl, rfl, List.nil_sublist _, fun _ hp => nomatch hp⟩
  | some l =>
    rw [hl] at hR
    obtain ⟨L, hL, hne, hDL, hsub, hnode⟩ := hR.some_left
    obtain ⟨h1, h2, h3⟩ := DL.iff_seg.1 hDL
    have hne' : L.map (·.1) ≠ [] := by simpa using hne
    simp only [hL, Option.getD_some]
    refine ⟨h3, ?_, h2 hne', hsub, hnode⟩
    rw [h1, List.head?_append, Option.or_of_isSome (List.isSome_head?.2 hne')]

theorem add (ext : Go.UnicodeExt) (I : Inv hs s n used) (ev0 : Bytes) (h : Nat) :
    Inv (Go.HSet.add ext hs ev0 h).1 (Spec.HSet.add ext s ev0 n h) (n + 1) used := by
  generalize hev : Go.toLower ext ev0 = ev
  have hfresh := I.fresh
  generalize hLd : (AL.lookup s ev).getD [] = L
  obtain ⟨hseg, hst, hen, hsub, hnode⟩ := I.seg_addHL hLd
  have hLlt : ∀ i ∈ L.map (·.1), i < n := fun i hi => List.mem_range.1 (hsub.subset hi)
  -- the node `add` links the new one behind is an old node of the same name
  have hend : ∀ e, (addHL hs ev).«end» = some e → e < n ∧ (getNode hs e).event = ev := by
    intro e he
    obtain ⟨p, hp, rfl⟩ := List.mem_map.1 (List.mem_of_mem_getLast? (hen ▸ he))
    exact ⟨hLlt _ (List.mem_map.2 ⟨p, hp, rfl⟩), (hnode p hp).1⟩
  have hG := getNode_add ext hs ev0 h (by rw [hev, hfresh]; exact fun hc => Nat.lt_irrefl _ (hend n hc).1)
  rw [hev, hfresh] at hG
  have hnew : getNode (Go.HSet.add ext hs ev0 h).1 n = { event := ev, handler := h, prev := (addHL hs ev).«end» } := by
    rw [hG, if_pos rfl]
  have hold : ∀ i, i < n → (getNode (Go.HSet.add ext hs ev0 h).1 i).event = (getNode hs i).event ∧
      (getNode (Go.HSet.add ext hs ev0 h).1 i).handler = (getNode hs i).handler ∧
      ((getNode hs i).event ≠ ev → getNode (Go.HSet.add ext hs ev0 h).1 i = getNode hs i) := by
    intro i hi
    rw [hG, if_neg (Nat.ne_of_lt hi)]
    split
    · next he => exact ⟨rfl, rfl, fun hc => absurd (hend i he).2 hc⟩
    · exact ⟨rfl, rfl, fun _ => rfl⟩
  have hS : ∀ name, AL.lookup (Spec.HSet.add ext s ev0 n h) name =
      if ev = name then some (L ++ [(n, h)]) else AL.lookup s name := by
    intro name; unfold Spec.HSet.add; rw [AL.lookup_insert, hev, hLd]
  refine of_rel ?_ ?_ (AL.nodup_insert I.snd _ _) ?_ ?_
  · rw [add_fresh, hfresh]
  · rw [keys_add ext hs ev0 h (by rw [I.keys, hfresh]; exact fun hc => Nat.lt_irrefl _ (List.mem_range.1 hc))
        (fun e he => I.mem_keys (hend e (hev ▸ he)).1), I.keys, hfresh, List.range_succ]
  · intro name
    rw [add_set, AL.lookup_insert, hS, hev, hfresh]
    by_cases hname : ev = name
    · subst hname
      rw [if_pos rfl, if_pos rfl]
      refine ⟨by simp, ?_, ?_, fun p hp => ?_⟩
      · rw [List.map_append]
        exact (DL.add (fun hc => Nat.lt_irrefl _ (hLlt n hc)) (hsub.nodup List.nodup_range) hseg hst hen rfl rfl).congr
          fun i _ => by rw [add_eq, getNode_mk, hev, hfresh]
      · rw [List.map_append, List.range_succ]
        exact List.Sublist.append hsub (List.Sublist.refl _)
      · rcases List.mem_append.1 hp with hp | hp
        · have := hold p.1 (hLlt _ (List.mem_map.2 ⟨p, hp, rfl⟩))
          rw [this.1, this.2.1]; exact hnode p hp
        · cases List.mem_singleton.1 hp
          rw [hnew]; exact ⟨rfl, rfl⟩
    · rw [if_neg hname, if_neg hname]
      exact (I.rel name).frame (Nat.le_succ n) fun i hi he => (hold i hi).2.2 (he ▸ fun hc => hname hc.symm)
  · intro k hk hu
    by_cases hkn : k = n
    · subst hkn
      rw [hnew, hS, if_pos rfl]
      exact ⟨_, rfl, by simp⟩
    · have hlt : k < n := Nat.lt_of_le_of_ne (Nat.le_of_lt_succ hk) hkn
      rw [(hold k hlt).1, hS]
      obtain ⟨L1, h1, h2⟩ := I.unused k hlt hu
      split
      · next hc =>
        rw [← hLd, hc, h1]
        exact ⟨_, rfl, by rw [List.map_append]; exact List.mem_append_left _ h2⟩
      · exact ⟨L1, h1, h2⟩

theorem remove (I : Inv hs s n used) (k : Nat) (hk : k < n) (hu : k ∉ used) :
    Inv (Go.HSet.remove hs k) (Spec.HSet.remove s k) n (k :: used) := by
  obtain ⟨L, hL, hkL⟩ := I.unused k hk hu
  obtain ⟨l, hl, _, hDL, _, hnodeL⟩ := (hL ▸ I.rel (getNode hs k).event).some_right
  obtain ⟨a, b, hab⟩ := List.append_of_mem hkL
  have hG : ∀ i, getNode (Go.HSet.remove hs k) i = _ := fun i => (getNode_remove hs k l hl i).trans (getNode_unlink hs k i)
  have hS := lookup_remove s I.snd k
  have hnd := I.nodup hL
  have hev : ∀ i, (getNode (Go.HSet.remove hs k) i).event = (getNode hs i).event ∧
      (getNode (Go.HSet.remove hs k) i).handler = (getNode hs i).handler := by
    intro i; rw [hG]
    by_cases h : i = k
    · rw [if_pos h, h]; exact ⟨rfl, rfl⟩
    · rw [if_neg h]; exact ⟨rfl, rfl⟩
  -- `k` and its two neighbours carry `k`'s name, so nodes of other names are untouched
  have hother : ∀ i, (getNode hs i).event ≠ (getNode hs k).event → getNode (Go.HSet.remove hs k) i = getNode hs i := by
    intro i hi
    have hevL : ∀ j ∈ L.map (·.1), (getNode hs j).event = (getNode hs k).event :=
      List.forall_mem_map.2 fun p hp => (hnodeL p hp).1
    rw [hG, if_neg (fun hc : i = k => hi (hc ▸ rfl)),
      if_neg (fun hc => hi (hevL i (hDL.prev_mem hkL hc))), if_neg (fun hc => hi (hevL i (hDL.next_mem hkL hc)))]
  have hmapf : (L.filter (·.1 != k)).map (·.1) = a ++ b := by
    rw [← List.filter_ne_append_cons (hab ▸ hnd), ← hab, List.filter_map]; rfl
  have hDL' : DL (Go.HSet.remove hs k) (unlinkHL hs k l) ((L.filter (·.1 != k)).map (·.1)) :=
    hmapf ▸ DL.congr (DL.unlink (hab ▸ hnd) (hab ▸ hDL)) fun i _ => getNode_remove hs k l hl i
  refine of_rel ?_ ?_ (keys_remove_nodup s I.snd k) ?_ ?_
  · rw [remove_eq hs k l hl]; exact (unlink_fresh hs k).trans I.fresh
  · rw [remove_eq hs k l hl]
    exact (keys_unlink hs k (I.mem_keys hk) (fun i hi => I.mem_keys (I.lt hL (hDL.next_mem hkL hi)))
      (fun i hi => I.mem_keys (I.lt hL (hDL.prev_mem hkL hi)))).trans I.keys
  · intro name
    rw [hS, lookup_remove_set hs k l hl, hDL'.isNone_or, List.isEmpty_map]
    by_cases hname : (getNode hs k).event = name
    · subst hname
      rw [if_pos rfl, hL, Option.bind_some]
      split
      · trivial
      · next hemp =>
        exact ⟨fun hc => hemp (List.isEmpty_iff.2 hc), hDL', (List.filter_sublist.map _).trans (I.sub _ L hL),
          fun p hp => by rw [(hev p.1).1, (hev p.1).2]; exact I.node _ L hL p (List.mem_filter.1 hp).1⟩
    · rw [if_neg hname]
      have hR := (I.rel name).frame (Nat.le_refl n) (hs' := Go.HSet.remove hs k)
        fun i _ hi => hother i (hi ▸ fun hc => hname hc.symm)
      cases hL1 : AL.lookup s name with
      | none => rw [hL1] at hR; exact hR
      | some L1 =>
        rw [hL1] at hR
        -- `k` carries another name, so it is not in this list, and the list was not empty
        have hfilt : L1.filter (·.1 != k) = L1 := List.filter_eq_self.2 fun p hp =>
          bne_iff_ne.2 fun hc => hname (hc ▸ (I.node name L1 hL1 p hp).1)
        have hne : ¬ L1.isEmpty := by
          obtain ⟨_, _, h, _⟩ := hR.some_right
          simpa using h
        rw [Option.bind_some, hfilt, if_neg hne]; exact hR
  · intro k' hk' hu'
    obtain ⟨L1, h1, h2⟩ := I.unused k' hk' fun hc => hu' (List.mem_cons_of_mem _ hc)
    obtain ⟨p, hp, hpk⟩ := List.mem_map.1 h2
    have hpf : p ∈ L1.filter (·.1 != k) :=
      List.mem_filter.2 ⟨hp, bne_iff_ne.2 fun hc => hu' (hpk ▸ hc ▸ List.mem_cons_self)⟩
    rw [(hev k').1, hS, h1, Option.bind_some, if_neg fun hc => by rw [List.isEmpty_iff.1 hc] at hpf; cases hpf]
    exact ⟨_, rfl, List.mem_map.2 ⟨p, hpf, hpk⟩⟩

theorem getHandlers_eq (I : Inv hs s n used) (name : Bytes) :
    getHandlers hs name = ((AL.lookup s name).getD []).map (·.1) := by
  unfold getHandlers
  cases hl : AL.lookup hs.set name with
  | none => simp [I.none_ name hl]
  | some l =>
    obtain ⟨L, h1, _, h3⟩ := I.some_ name l hl
    simp only [h1, Option.getD_some]
    exact h3.getHandlers (I.len h1)

theorem links (I : Inv hs s n used) (name : Bytes) :
    match AL.lookup hs.set name with
    | some l => walkBwd hs (hs.nodes.length + 1) l.«end» = (((AL.lookup s name).getD []).map (·.1)).reverse ∧
        l.start.isSome ∧ l.«end».isSome
    | none => (AL.lookup s name).getD [] = [] := by
  cases hl : AL.lookup hs.set name with
  | none => simp [I.none_ name hl]
  | some l =>
    obtain ⟨L, h1, h2, h3⟩ := I.some_ name l hl
    simp only [h1, Option.getD_some]
    exact h3.walkBwd (by simpa using h2) (I.len h1)

theorem dispatchList_eq (ext : Go.UnicodeExt) (I : Inv hs s n used) (cmd : Bytes) :
    dispatchList ext hs cmd = handlersFor ext s cmd := by
  unfold dispatchList handlersFor
  rw [I.getHandlers_eq, List.map_map]
  cases hL : AL.lookup s (Go.toLower ext cmd) with
  | none => rfl
  | some L =>
    simp only [Option.getD_some]
    apply List.map_congr_left
    intro p hp
    exact (I.node _ L hL p hp).2

end Inv

end Go.HSet
