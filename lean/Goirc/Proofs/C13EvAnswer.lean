import Goirc.Proofs.C13Ops
import Goirc.Proofs.C13Parse
import Goirc.Proofs.C13InvAuxGround
import Goirc.Proofs.C13Decimal
import Goirc.Proofs.C13Modes
/-!
# C13: the 324 and 352/315 replies bring the relational state to the new view
-/
namespace Proofs.C13
open Go Go.Client Go.Tracker Spec.Tracker Spec.Net

/-- one optional flag letter: `x` writes the Boolean field that `get` reads and `set` writes -/
theorem pm_flag (S : TS) (c t : Bytes) (md : ChanMode) (x : UInt8) (get : ChanMode → Bool)
    (set : ChanMode → Bool → ChanMode) (h : ∀ md op, applyChanFlag md op x = some (set md op)) (hs : ∀ md, set md (get md) = md)
    (b : Bool) (rest : Bytes) (args : List Bytes) :
    parseModes (stM S c t md) c true ((if b then [x] else []) ++ rest) args
      = parseModes (stM S c t (set md (get md || b))) c true rest args := by
  cases b
  · simp [hs]
  · simp only [if_true, List.singleton_append, Bool.or_true]
    rw [parseModes_flag _ c true rest args (stM_lookup S c t md) (h md true), stM_stM]

theorem pm_key (S : TS) (c t : Bytes) (md : ChanMode) (b : Bool) (k : Bytes) (rest : Bytes) (args : List Bytes) :
    parseModes (stM S c t md) c true ((if b then [107] else []) ++ rest) ((if b then [k] else []) ++ args)
      = parseModes (stM S c t (if b then { md with key := k } else md)) c true rest args := by
  cases b
  · simp
  · simp only [if_true, List.singleton_append]
    rw [parseModes_key_add _ c rest (stM_lookup S c t md) k args, stM_stM]

theorem pm_limit (S : TS) (c t : Bytes) (md : ChanMode) (b : Bool) (k : Bytes) :
    parseModes (stM S c t md) c true (if b then [108] else []) (if b then [k] else [])
      = stM S c t (if b then { md with limit := Go.atoi k } else md) := by
  cases b
  · simp [parseModes]
  · simp only [if_true]
    rw [parseModes_limit_add _ c [] (stM_lookup S c t md) k [], parseModes, stM_stM]

theorem pm_letters (S : TS) (c t : Bytes) (md m : ChanMode) (h0 : 0 ≤ m.limit) (h1 : m.limit < 100000) :
    parseModes (stM S c t md) c false ([43] ++ modeLetters m) (modeArgs m) = stM S c t (mergeModes md m) := by
  -- with the fields of `md` named, each flag letter turns one `aᵢ` into `aᵢ || (the flag of m)`
  obtain ⟨a1, a2, a3, a4, a5, a6, a7, a8, a9, a10, a11, a12⟩ := md
  rw [List.singleton_append, parseModes_plus]
  simp only [modeLetters, modeArgs, List.append_assoc]
  simp only [pm_flag _ _ _ _ 112 (·.priv) ({ · with priv := · }) (fun _ _ => rfl) (fun _ => rfl),
    pm_flag _ _ _ _ 115 (·.secret) ({ · with secret := · }) (fun _ _ => rfl) (fun _ => rfl),
    pm_flag _ _ _ _ 116 (·.protectedTopic) ({ · with protectedTopic := · }) (fun _ _ => rfl) (fun _ => rfl),
    pm_flag _ _ _ _ 110 (·.noExternalMsg) ({ · with noExternalMsg := · }) (fun _ _ => rfl) (fun _ => rfl),
    pm_flag _ _ _ _ 109 (·.moderated) ({ · with moderated := · }) (fun _ _ => rfl) (fun _ => rfl),
    pm_flag _ _ _ _ 105 (·.inviteOnly) ({ · with inviteOnly := · }) (fun _ _ => rfl) (fun _ => rfl),
    pm_flag _ _ _ _ 79 (·.operOnly) ({ · with operOnly := · }) (fun _ _ => rfl) (fun _ => rfl),
    pm_flag _ _ _ _ 122 (·.sslOnly) ({ · with sslOnly := · }) (fun _ _ => rfl) (fun _ => rfl),
    pm_flag _ _ _ _ 114 (·.registered) ({ · with registered := · }) (fun _ _ => rfl) (fun _ => rfl),
    pm_flag _ _ _ _ 90 (·.allSSL) ({ · with allSSL := · }) (fun _ _ => rfl) (fun _ => rfl)]
  rw [pm_key, pm_limit, atoi_toString_int _ h0 h1]
  congr 1
  by_cases hk : (m.key != []) = true <;> by_cases hl : (m.limit != 0) = true <;>
    simp only [mergeModes, hk, hl, if_true] <;> simp

theorem modeLetters_printable (m : ChanMode) : ∀ b ∈ modeLetters m, 32 < b ∧ b < 127 := by
  intro b hb
  simp only [modeLetters, List.mem_append] at hb
  have aux : ∀ (p : Bool) (x : UInt8), (32 < x ∧ x < 127) → b ∈ (if p then [x] else []) → 32 < b ∧ b < 127 := by
    intro p x hx hm
    cases p <;> simp at hm
    subst hm; exact hx
  rcases hb with ((((((((((((h | h) | h) | h) | h) | h) | h) | h) | h) | h) | h) | h)) <;>
    exact aux _ _ (by decide) h

theorem modeArgs_midOk (m : ChanMode) (hk : m.key = [] ∨ nameOk m.key = true) (h0 : 0 ≤ m.limit) :
    ∀ a ∈ modeArgs m, midOk a = true := by
  intro a ha
  simp only [modeArgs, List.mem_append] at ha
  rcases ha with ha | ha
  · split at ha
    · rename_i hne
      simp only [List.mem_singleton] at ha
      subst ha
      rcases hk with hk | hk
      · simp [hk] at hne
      · exact midOk_of_nameOk _ hk
    · simp at ha
  · split at ha
    · simp only [List.mem_singleton] at ha
      subst ha
      exact toString_int_midOk _ h0
    · simp at ha

theorem ev_answerMode (ext : UnicodeExt) (nn : Bytes → Bytes) (n : Net) (c : Bytes) (hi : NetInv n)
    (hc : conforms n (.answerMode c) = true) :
    Eqv (tFeed ext nn n.view (serverStep n (.answerMode c)).2) (serverStep n (.answerMode c)).1.view := by
  have hon : onChan n n.me c = true := hc
  have hv : AL.has n.view.chans c = true := by rw [hi.view_chans]; exact hon
  obtain ⟨r, hr⟩ := (AL.has_true_iff _ _).1 hv
  unfold onChan at hon
  cases hch : AL.lookup n.chans c with
  | none => simp [hch] at hon
  | some ch =>
    have hci := hi.chan_inv c ch hch
    obtain ⟨L, hp, -, -, -, hcmd, hargs⟩ := parse_324 ext n.me c hi.nameOk_me (hi.member hc).2.1
      (modeLetters ch.modes) (modeArgs ch.modes) (modeLetters_printable _)
      (modeArgs_midOk _ hci.key hci.limit.1)
    simp only [serverStep, hch, tFeed, hp, tDispatch_324 ext nn _ hcmd]
    have e : t_324 n.view L = parseModes n.view c false ([43] ++ modeLetters ch.modes) (modeArgs ch.modes) := by
      simp [t_324, arg, hargs, hv, sx_channelModes]
    rw [e, hr]
    have e2 : n.view = stM n.view c r.topic r.modes := by
      simp only [stM]
      rw [AL.insert_of_lookup _ _ _ hr]
    rw [e2, pm_letters _ _ _ _ _ hci.limit.1 hci.limit.2]
    simp only [stM, Option.getD_some, AL.insert_insert]
    exact Eqv.refl _

theorem cut_zero (real : Bytes) : cut (lit "0 " ++ real) [32] = ([48], some real) := by
  simp [cut, index, indexFrom, hasPrefix, lit]

/-- the flags word `G` + prefix holds none of `*`, `B`, `H` -/
theorem contains_G (p : ChanPrivs) (b : UInt8) (hb : b ∈ [42, 66, 72]) :
    Go.Client.contains ([71] ++ prefixOf p) b = false :=
  (by decide : ∀ s ∈ [[], [126], [38], [64], [37], [43]], ∀ b ∈ [42, 66, 72], Go.Client.contains ([71] ++ s) b = false)
    _ (prefixOf_cases p) b hb

theorem t_352_eval (S : TS) (L : Line) (me c ident host m real : Bytes) (p : ChanPrivs)
    (ha : L.args = [me, c, ident, host, lit "irc.test", m, [71] ++ prefixOf p, lit "0 " ++ real]) :
    t_352 S L = if !AL.has S.nicks m then S else if m == S.me then S else sx S (.nickInfo m ident host real) := by
  have e1 := contains_G p 42 (by decide)
  have e2 := contains_G p 66 (by decide)
  have e3 := contains_G p 72 (by decide)
  simp only [List.singleton_append] at e1 e2 e3
  simp [t_352, arg, ha, cut_zero, e1, e2, e3]

def whoLine (n : Net) (c : Bytes) (mp : Bytes × ChanPrivs) : Bytes :=
  let x := (AL.lookup n.users mp.1).getD ⟨[], [], []⟩
  srv ++ lit "352 " ++ n.me ++ [32] ++ c ++ [32] ++ x.ident ++ [32] ++ x.host ++ lit " irc.test " ++ mp.1 ++ lit " G" ++
    prefixOf mp.2 ++ lit " :0 " ++ x.real

theorem who_step {A B : TS} (h : Eqv A B) (n : Net) (m : Bytes) (p : ChanPrivs) (x : NUser)
    (hx : AL.lookup n.users m = some x) :
    Eqv (if !AL.has A.nicks m then A else if m == A.me then A else sx A (.nickInfo m x.ident x.host x.real))
      (whoStep n.users B (m, p)) := by
  have hl := h.nicks m
  have hme := h.me
  cases hA : AL.lookup A.nicks m with
  | none =>
    rw [hA] at hl
    simp only [whoStep, hx, AL.has_eq, hA, ← hl]
    simpa using h
  | some r =>
    rw [hA] at hl
    simp only [whoStep, hx, AL.has_eq, sx_nickInfo, hA, ← hl, ← hme]
    by_cases hm : m = A.me
    · simpa [hm] using h
    · simp only [Option.isSome_some, Bool.not_true, Bool.false_eq_true, if_false, beq_iff_eq, hm]
      exact ⟨fun k => by simp only [AL.lookup_insert, h.nicks k], h.chans, h.mem, rfl⟩

theorem who_loop (ext : UnicodeExt) (nn : Bytes → Bytes) (n : Net) (hi : NetInv n) (c : Bytes) (hcn : nameOk c = true)
    (tail : List Bytes) (ms : List (Bytes × ChanPrivs)) (hms : ∀ mp ∈ ms, AL.has n.users mp.1 = true) :
    ∀ A B, Eqv A B → ∃ A', Eqv A' (ms.foldl (whoStep n.users) B) ∧
      tFeed ext nn A (ms.map (whoLine n c) ++ tail) = tFeed ext nn A' tail := by
  induction ms with
  | nil => intro A B h; exact ⟨A, h, rfl⟩
  | cons mp ms ih =>
    intro A B h
    obtain ⟨m, p⟩ := mp
    obtain ⟨x, hx⟩ := (AL.has_true_iff _ _).1 (hms (m, p) (List.mem_cons_self ..))
    have hok := hi.users_ok m x hx
    have hmn := nameOk_of_nickOk hok.1
    obtain ⟨L, hp, -, -, -, hcmd, hargs⟩ := parse_352 ext n.me c hi.nameOk_me hcn x.ident x.host m (prefixOf p) x.real
      hok.2.1 hok.2.2.1 hmn (prefixOf_printable p)
    obtain ⟨A', hA', hf⟩ := ih (fun mp h => hms mp (List.mem_cons_of_mem _ h)) _ _ (who_step h n m p x hx)
    refine ⟨A', hA', ?_⟩
    rw [← hf]
    simp only [List.map_cons, List.cons_append, whoLine, hx, Option.getD_some, tFeed, hp,
      tDispatch_352 ext nn _ hcmd, t_352_eval _ L _ _ _ _ _ _ _ hargs]

theorem ev_answerWho (ext : UnicodeExt) (nn : Bytes → Bytes) (n : Net) (c : Bytes) (hi : NetInv n)
    (hc : conforms n (.answerWho c) = true) :
    Eqv (tFeed ext nn n.view (serverStep n (.answerWho c)).2) (serverStep n (.answerWho c)).1.view := by
  have hon : onChan n n.me c = true := hc
  unfold onChan at hon
  cases hch : AL.lookup n.chans c with
  | none => simp [hch] at hon
  | some ch =>
    have hci := hi.chan_inv c ch hch
    have hcn := (hi.member hc).2.1
    obtain ⟨L, hp, -, -, -, hcmd, -⟩ := parse_315 ext n.me c hi.nameOk_me hcn
    have hms : ∀ mp ∈ ch.members, AL.has n.users mp.1 = true := by
      intro mp hmp
      apply hci.members_users
      rw [AL.has_iff_mem_keys]
      exact AL.mem_keys_of_mem (v := mp.2) hmp
    obtain ⟨A', hA', hf⟩ := who_loop ext nn n hi c hcn
      [srv ++ lit "315 " ++ n.me ++ [32] ++ c ++ lit " :End of /WHO list."] ch.members hms _ _ (Eqv.refl n.view)
    simp only [serverStep, hch]
    have e : tFeed ext nn A' [srv ++ lit "315 " ++ n.me ++ [32] ++ c ++ lit " :End of /WHO list."] = A' := by
      simp only [tFeed, hp, tDispatch_315 ext nn _ hcmd]
    rw [e] at hf
    show Eqv (tFeed ext nn n.view (ch.members.map (whoLine n c) ++ _)) (ch.members.foldl (whoStep n.users) n.view)
    rw [hf]
    exact hA'

end Proofs.C13
