import Goirc.Proofs.C13EvJoinAux
/-!
# C13: a JOIN (ours, with its 332 / 353 / 366 replies, or somebody else's) brings the relational state to the new view
-/
namespace Proofs.C13
open Go Go.Client Go.Tracker Spec.Tracker Spec.Net

theorem feed_join_me (ext : UnicodeExt) (nn : Bytes → Bytes) (n : Net) (c : Bytes) (hi : NetInv n)
    (hcok : chanOk c = true) (hnot : onChan n n.me c = false) :
    tFeed ext nn n.view [[58] ++ userMask n n.me ++ lit " JOIN " ++ c] =
      { n.view with chans := AL.insert n.view.chans c {}, mem := AL.insert n.view.mem (c, n.me) {} } := by
  obtain ⟨x, hx⟩ := (AL.has_true_iff _ _).1 hi.me_user
  obtain ⟨hun, hid, hho, hm⟩ := hi.user hx
  have hcn := nameOk_of_chanOk hcok
  obtain ⟨L, hn, -, -, hcmd, ha, hf⟩ := (parse_JOIN ext n.me x.ident x.host hun hid hho c hcn).feed nn n.view []
  rw [hm, hf, tDispatch_JOIN ext nn _ hcmd]
  have hvc : AL.has n.view.chans c = false := by rw [hi.view_chans, hnot]
  have hvm : AL.has n.view.mem (c, n.me) = false := by rw [hi.view_mem, hnot]; rfl
  have hvn : AL.has n.view.nicks n.me = true := by rw [hi.view_nicks]; simp
  have hvme : (n.me == n.view.me) = true := by rw [hi.me_view]; simp
  simp only [tFeed, t_JOIN, arg, ha, hn, List.getElem?_cons_zero, hvc, hvn, hvme, Bool.not_false, Bool.not_true, Bool.and_self,
    Bool.and_false, Bool.false_eq_true, if_false, if_true]
  rw [sx_newChannel, hvc, Bool.or_false, if_neg (by simpa using nameOk_ne_nil c hcn)]
  exact sx_associate_fresh _ c n.me (by rw [AL.has_insert]; simp) hvn hvm

/-- The 332 line on a channel the JOIN has just created: `hS`, its record is still the default one.  So afterwards the
record is `{ topic := t }` whether or not a line was sent: no topic means no line, and `t = []` is the default. -/
theorem feed_topic (ext : UnicodeExt) (nn : Bytes → Bytes) (S : TS) (me c t : Bytes)
    (hm : nameOk me = true) (hc : nameOk c = true) (hS : AL.lookup S.chans c = some {}) :
    ∃ S', tFeed ext nn S (if (t != []) = true then [srv ++ lit "332 " ++ me ++ [32] ++ c ++ lit " :" ++ t] else []) = S' ∧
      S'.nicks = S.nicks ∧ S'.mem = S.mem ∧ S'.me = S.me ∧
      ∀ k, AL.lookup S'.chans k = if c = k then some { topic := t } else AL.lookup S.chans k := by
  by_cases ht : t = []
  · subst ht
    refine ⟨S, by simp [tFeed], rfl, rfl, rfl, ?_⟩
    intro k
    split
    · rename_i e; subst e; exact hS
    · rfl
  · have : (t != []) = true := by simpa using ht
    simp only [this, if_true]
    obtain ⟨L, -, -, -, hcmd, ha, hf⟩ := (parse_332 ext me c hm hc t).feed nn S []
    rw [hf, tDispatch_332 ext nn _ hcmd]
    simp only [tFeed, t_332, arg, ha, List.getElem?_cons_succ, List.getElem?_cons_zero, AL.has_of_lookup hS, if_true, sx_topic, hS]
    exact ⟨_, rfl, rfl, rfl, rfl, fun k => by simp only [AL.lookup_insert]⟩

/-- `t` is the channel's topic, `ms` its members afterwards.  The lines are the JOIN, the 332 if there is a topic, the NAMES
reply in 353 lines of four names, and the 366. -/
theorem ev_join_me (ext : UnicodeExt) (nn : Bytes → Bytes) (n : Net) (c t : Bytes) (ms : List (Bytes × ChanPrivs))
    (hi : NetInv n) (hcok : chanOk c = true) (hnot : onChan n n.me c = false)
    (hnd : (AL.keys ms).Nodup) (hok : ∀ m ∈ AL.keys ms, nickOk m = true) (hme : n.me ∈ AL.keys ms) :
    Eqv (tFeed ext nn n.view
          ((([[58] ++ userMask n n.me ++ lit " JOIN " ++ c] ++
            (if (t != []) = true then [srv ++ lit "332 " ++ n.me ++ [32] ++ c ++ lit " :" ++ t] else [])) ++
            (chunk 4 ((ms.map fun mp => prefixOf mp.2 ++ mp.1).length + 1) (ms.map fun mp => prefixOf mp.2 ++ mp.1)).map
              (fun g => srv ++ lit "353 " ++ n.me ++ lit " = " ++ c ++ lit " :" ++ joinSp g)) ++
            [srv ++ lit "366 " ++ n.me ++ [32] ++ c ++ lit " :End of /NAMES list."]))
      (ms.foldl (joinF c) { n.view with chans := AL.insert n.view.chans c { topic := t } }) := by
  have hun := hi.nameOk_me
  have hcn := nameOk_of_chanOk hcok
  rw [tFeed_append, tFeed_append, tFeed_append, feed_join_me ext nn n c hi hcok hnot]
  obtain ⟨A2, hA2, h2n, h2m, h2me, h2c⟩ := feed_topic ext nn
    { n.view with chans := AL.insert n.view.chans c {}, mem := AL.insert n.view.mem (c, n.me) {} } n.me c t hun hcn
    (by simp [AL.lookup_insert])
  rw [hA2]
  have h2cc : AL.has A2.chans c = true := by rw [AL.has_eq, h2c]; simp
  rw [feed_353_lines ext nn n.me c hun hcn _ A2 h2cc, chunk_flatten]
  · obtain ⟨L, -, -, -, hcmd, -, hf⟩ := (parse_366 ext n.me c hun hcn).feed nn (tNames c A2 (ms.map fun mp => prefixOf mp.2 ++ mp.1)) []
    rw [hf, tDispatch_366 ext nn _ hcmd]
    simp only [tFeed]
    have hvm : ∀ m, AL.lookup n.view.mem (c, m) = none := by
      intro m; rw [← AL.has_false_iff, hi.view_mem, hnot]; rfl
    rw [tNames_eq_foldl c _ A2 hnd hok h2cc fun m _ => ?_]
    · refine foldl_joinF_eqv c n.me _ A2 _ (fun k => by rw [h2n]) (fun k => ?_) (by rw [h2me]) fun k hk => ?_
      · rw [h2c]; simp only [AL.lookup_insert]; split <;> rfl
      · have hne : ¬ (c, n.me) = k := fun e => hk e.symm hme
        rw [h2m]; simp only [AL.lookup_insert, if_neg hne]
    · rw [h2m]
      simp only [AL.lookup_insert]
      by_cases hmne : m = n.me
      · rw [hmne, if_pos rfl]; exact Or.inr rfl
      · rw [if_neg (by intro e; injection e with _ e2; exact hmne e2.symm)]
        exact Or.inl (hvm m)
  · intro g hg w hw
    obtain ⟨mp, hmp, rfl⟩ := List.mem_map.1 (chunk_mem _ _ _ g hg w hw)
    have h1 := nameOk_no32 _ (nameOk_of_nickOk (hok _ (List.mem_map.2 ⟨mp, hmp, rfl⟩)))
    intro hmem
    rcases List.mem_append.1 hmem with h | h
    · exact absurd (prefixOf_printable mp.2 32 h).1 (by decide)
    · exact h1 h

theorem ev_join_other (ext : UnicodeExt) (nn : Bytes → Bytes) (n : Net) (u c : Bytes) (x : NUser) (hi : NetInv n)
    (hx : AL.lookup n.users u = some x) (hcok : chanOk c = true) (hnot : onChan n u c = false)
    (hon : onChan n n.me c = true) :
    Eqv (tFeed ext nn n.view [[58] ++ userMask n u ++ lit " JOIN " ++ c])
      (let v := n.view
       let v1 := if AL.has v.nicks u then v else { v with nicks := AL.insert v.nicks u { ident := x.ident, host := x.host } }
       { v1 with mem := AL.insert v1.mem (c, u) {} }) := by
  obtain ⟨hun, hid, hho, hm⟩ := hi.user hx
  have hcn := nameOk_of_chanOk hcok
  obtain ⟨L, hn, hli, hlh, hcmd, ha, hf⟩ := (parse_JOIN ext u x.ident x.host hun hid hho c hcn).feed nn n.view []
  rw [hm, hf, tDispatch_JOIN ext nn _ hcmd]
  have hvc : AL.has n.view.chans c = true := by rw [hi.view_chans, hon]
  have hvm : AL.has n.view.mem (c, u) = false := by rw [hi.view_mem, hon, hnot]; rfl
  simp only [tFeed, t_JOIN, arg, ha, hn, hli, hlh, List.getElem?_cons_zero, hvc, Bool.not_true, Bool.false_and, Bool.false_eq_true,
    if_false]
  cases hvn : AL.has n.view.nicks u
  · simp only [Bool.not_false, if_true, Bool.false_eq_true, if_false]
    rw [sx_newNick_fresh _ u (nameOk_ne_nil u hun) hvn, sx_nickInfo]
    simp only [AL.lookup_insert, if_true]
    rw [sx_associate]
    simp only [hvc, hvm, AL.has_insert, decide_true, Bool.true_or, Bool.not_false, Bool.and_self, if_true]
    refine ⟨fun k => ?_, fun k => rfl, fun k => rfl, rfl⟩
    simp only [AL.lookup_insert]
    split <;> rfl
  · simp only [Bool.not_true, Bool.false_eq_true, if_false, if_true]
    rw [sx_associate_fresh _ c u hvc hvn hvm]
    exact Eqv.refl _

theorem ev_join (ext : UnicodeExt) (nn : Bytes → Bytes) (n : Net) (u c : Bytes) (hi : NetInv n)
    (hc : conforms n (.join u c) = true) :
    Eqv (tFeed ext nn n.view (serverStep n (.join u c)).2) (serverStep n (.join u c)).1.view := by
  simp only [conforms, Bool.and_eq_true, Bool.not_eq_true'] at hc
  obtain ⟨⟨hu, hcok⟩, hnot⟩ := hc
  obtain ⟨x, hx⟩ := (AL.has_true_iff _ _).1 hu
  simp only [serverStep]
  by_cases hme : u = n.me
  · subst hme
    simp only [beq_self_eq_true, if_true]
    -- the members after the join are distinct nicknames, the client among them: the new ground truth keeps its invariant
    obtain ⟨g1, g2, -⟩ := join_ground hi.ground hu hcok hnot (if AL.has n.chans c then {} else { op := true })
    have ci := g1.chan_inv c _ (by rw [setChan, AL.lookup_insert, if_pos rfl])
    refine ev_join_me ext nn n c _ _ hi hcok hnot ci.members_nodup (fun m hm => ?_) ((AL.has_iff_mem_keys _ _).1 (by rw [g2]; simp))
    obtain ⟨y, hy⟩ := (AL.has_true_iff _ _).1 (ci.members_users m ((AL.has_iff_mem_keys _ _).2 hm))
    exact (g1.users_ok m y hy).1
  · have : (u == n.me) = false := by simpa using hme
    simp only [this, Bool.false_eq_true, if_false]
    cases hon : onChan n n.me c
    · simp only [Bool.false_eq_true, if_false, tFeed, setChan]
      exact Eqv.refl _
    · simp only [if_true, setChan, hx, Option.getD_some]
      exact ev_join_other ext nn n u c x hi hx hcok hnot hon

end Proofs.C13
