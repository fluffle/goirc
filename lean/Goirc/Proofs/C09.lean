import Goirc.Spec.Send
/-!
# Helper lemmas for C09 (Send LTS): what a step does to the pipeline, and `isRange` in closed form
-/
namespace Proofs.C09
open Go.Send Spec.Send

theorem seqsOf_append (s : Sender) (a b : List Item) :
    seqsOf s (a ++ b) = seqsOf s a ++ seqsOf s b := by
  simp [seqsOf, List.filter_append, List.map_append]

theorem pipeline_step {st st' l} (hs : step st l = some st') :
    (∃ s, pipeline st' = pipeline st ++ [⟨s, st.issued s⟩] ∧
        st'.issued = fun t => if t = s then st.issued s + 1 else st.issued t) ∨
      (pipeline st' = pipeline st ∧ st'.issued = st.issued) := by
  cases l <;> dsimp only [step] at hs <;> (repeat' split at hs) <;> cases hs
  · exact .inl ⟨_, (List.append_assoc ..).symm, rfl⟩
  · next hi hq => exact .inr ⟨by simp [pipeline, hi, hq], rfl⟩
  · next x hi => exact .inr ⟨by simp [pipeline, hi], rfl⟩
  · exact .inr ⟨rfl, rfl⟩

theorem isRange_iff (l : List Nat) (k : Nat) : isRange l k = true ↔ l = List.range' k l.length := by
  induction l generalizing k with
  | nil => simp [isRange]
  | cons x xs ih => simp [isRange, List.range'_succ, ih]

theorem isRange_of_prefix_range {l : List Nat} {n : Nat} (hp : l <+: List.range n) :
    isRange l 0 = true := by
  rw [isRange_iff, List.prefix_iff_eq_take.1 hp, List.take_range, List.range_eq_range']
  simp

theorem mem_of_seq_mem {s : Sender} {k : Nat} {l : List Item} (h : k ∈ seqsOf s l) :
    (⟨s, k⟩ : Item) ∈ l := by
  simp only [seqsOf, List.mem_map, List.mem_filter, decide_eq_true_eq] at h
  obtain ⟨⟨s', k'⟩, ⟨hm, hs⟩, hk⟩ := h
  simp at hs hk
  subst hs hk
  exact hm

end Proofs.C09
