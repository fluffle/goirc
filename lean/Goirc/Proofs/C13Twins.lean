import Goirc.Proofs.C13Ops
import Goirc.Proofs.Client
/-!
# C13: the twins respect `Eqv` and keep `WFS`

A twin is a composition of `sx` whose guards and arguments read lookups and `me`.  Each proof below says so: the
reads of `A` are rewritten to those of `B`, the line's own cases are taken, and what is left is a term of `EW.sx`
and `EW.ite` of the twin's shape.  `stTwin` is `stHandler` with every handler replaced by its twin (`stTable_cases`),
so `tDispatch` and `tFeed` respect `Eqv` and keep `WFS` too.
-/
namespace Proofs.C13
open Go Go.Client Go.Tracker Spec.Tracker Spec.Net

/-- equal as finite maps, and well formed (one of them: `Eqv.wfs`): `Eqv` alone does not go through `reNick` (`Eqv_sx`), so
the twins carry `WFS` along -/
def EW (A B : TS) : Prop := Eqv A B ∧ WFS A

theorem EW.refl {S : TS} (w : WFS S) : EW S S := ⟨Eqv.refl S, w⟩

theorem EW.sx {A B : TS} (h : EW A B) (o : Op) (hu : usedOp o = true) : EW (sx A o) (sx B o) :=
  ⟨Eqv_sx o hu h.1 h.2, WFS_sx A o hu h.2⟩

theorem EW.ite {A B A' B' : TS} (b : Bool) (h1 : EW A B) (h2 : EW A' B') :
    EW (if b then A else A') (if b then B else B') := by
  cases b
  · exact h2
  · exact h1

theorem EW.sx_if {A B : TS} (h : EW A B) (b : Bool) (o : Op) (hu : usedOp o = true) :
    EW (if b then C13.sx A o else A) (if b then C13.sx B o else B) := EW.ite b (h.sx o hu) h

theorem meName_congr {A B : TS} (h : Eqv A B) : meName A = meName B := by
  simp only [meName, h.nicks, h.me]

theorem sIsOn_congr {A B : TS} (h : Eqv A B) (c n : Bytes) : sIsOn A c n = sIsOn B c n := by
  simp only [sIsOn, h.has_nicks, h.has_chans, h.has_mem]

section
variable {A B : TS} (h : EW A B) (l : Line)
include h

theorem EW_t_001 : EW (t_001 A l) (t_001 B l) := by
  unfold t_001
  rw [h.1.me, meName_congr h.1]
  cases parseUserHost (lastWord l.text) with
  | none => exact h.sx _ rfl
  | some t => exact (h.sx _ rfl).sx _ rfl

theorem EW_t_433 (nn : Bytes → Bytes) : EW (t_433 nn A l) (t_433 nn B l) := by
  unfold t_433
  rw [h.1.me]
  cases arg l 1 with
  | none => exact h
  | some refused => exact h.sx_if _ _ rfl

theorem EW_t_STNICK : EW (t_STNICK A l) (t_STNICK B l) := by
  unfold t_STNICK
  cases arg l 0 with
  | none => exact h
  | some a => exact h.sx _ rfl

theorem EW_t_JOIN : EW (t_JOIN A l) (t_JOIN B l) := by
  unfold t_JOIN
  cases arg l 0 with
  | none => exact h
  | some chn =>
    simp only [h.1.has_chans, h.1.has_nicks, h.1.me]
    have h3 := h.sx_if (!AL.has B.chans chn) (.newChannel chn) rfl
    exact EW.ite _ h (EW.sx (EW.ite _ ((h3.sx _ rfl).sx _ rfl) h3) _ rfl)

theorem EW_t_PART : EW (t_PART A l) (t_PART B l) := by
  unfold t_PART
  cases arg l 0 with
  | none => exact h
  | some chn => exact h.sx _ rfl

theorem EW_t_KICK : EW (t_KICK A l) (t_KICK B l) := by
  unfold t_KICK
  cases arg l 0 with
  | none => exact h
  | some chn => cases arg l 1 with
    | none => exact h
    | some who => exact h.sx _ rfl

theorem EW_t_QUIT : EW (t_QUIT A l) (t_QUIT B l) := h.sx _ rfl

theorem EW_t_MODE : EW (t_MODE A l) (t_MODE B l) := by
  unfold t_MODE
  cases arg l 0 with
  | none => exact h
  | some t => cases arg l 1 with
    | none => exact h
    | some m =>
      simp only [h.1.has_chans, h.1.has_nicks, h.1.me]
      exact EW.ite _ (h.sx _ rfl) (EW.ite _ (h.sx_if _ _ rfl) h)

theorem EW_t_TOPIC : EW (t_TOPIC A l) (t_TOPIC B l) := by
  unfold t_TOPIC
  cases arg l 0 with
  | none => exact h
  | some chn => cases arg l 1 with
    | none => exact h
    | some t => simp only [h.1.has_chans]; exact h.sx_if _ _ rfl

theorem EW_t_311 : EW (t_311 A l) (t_311 B l) := by
  unfold t_311
  cases arg l 1 with
  | none => exact h
  | some n => cases arg l 2 with
    | none => exact h
    | some i => cases arg l 3 with
      | none => exact h
      | some ho => cases arg l 5 with
        | none => exact h
        | some name => simp only [h.1.has_nicks, h.1.me]; exact EW.ite _ (h.sx_if _ _ rfl) h

theorem EW_t_324 : EW (t_324 A l) (t_324 B l) := by
  unfold t_324
  cases arg l 1 with
  | none => exact h
  | some chn => cases arg l 2 with
    | none => exact h
    | some m => simp only [h.1.has_chans]; exact h.sx_if _ _ rfl

theorem EW_t_332 : EW (t_332 A l) (t_332 B l) := by
  unfold t_332
  cases arg l 1 with
  | none => exact h
  | some chn => cases arg l 2 with
    | none => exact h
    | some t => simp only [h.1.has_chans]; exact h.sx_if _ _ rfl

theorem EW_t_352 : EW (t_352 A l) (t_352 B l) := by
  unfold t_352
  cases arg l 2 with
  | none => exact h
  | some ident => cases arg l 3 with
    | none => exact h
    | some host => cases arg l 5 with
      | none => exact h
      | some n =>
        simp only [h.1.has_nicks, h.1.me]
        refine EW.ite _ h (EW.ite _ h ?_)
        rcases cut (l.args.getLast?.getD []) [32] with ⟨_, _ | real⟩
        · exact h
        · have h2 := h.sx (.nickInfo n ident host real) rfl
          cases arg l 6 with
          | none => exact h2
          | some flags => exact ((h2.sx_if _ _ rfl).sx_if _ _ rfl).sx_if _ _ rfl

theorem EW_t_671 : EW (t_671 A l) (t_671 B l) := by
  unfold t_671
  cases arg l 1 with
  | none => exact h
  | some n => simp only [h.1.has_nicks]; exact h.sx_if _ _ rfl

theorem EW_tName (chn w : Bytes) : EW (tName chn A w) (tName chn B w) := by
  unfold tName
  cases w with
  | nil => exact h
  | cons b tl =>
    simp only [h.1.has_nicks]
    generalize (if (prefixMode b).isSome = true then tl else b :: tl) = nick
    have h2 := h.sx_if (!AL.has B.nicks nick) (.newNick nick) rfl
    rw [sIsOn_congr h2.1]
    cases prefixMode b with
    | none => exact EW.ite _ h2 (h2.sx _ rfl)
    | some m => exact (EW.ite _ h2 (h2.sx _ rfl)).sx _ rfl
end

theorem EW_tNames {A B : TS} (h : EW A B) (chn : Bytes) (ws : List Bytes) : EW (tNames chn A ws) (tNames chn B ws) := by
  induction ws generalizing A B with
  | nil => exact h
  | cons w ws ih => exact ih (EW_tName h chn w)

theorem EW_t_353 {A B : TS} (h : EW A B) (l : Line) : EW (t_353 A l) (t_353 B l) := by
  unfold t_353
  cases arg l 2 with
  | none => exact h
  | some chn => simp only [h.1.has_chans]; exact EW.ite _ (EW_tNames h _ _) h

theorem stTable_cases {P : Option (Client → Line → HR) → Option (TS → Line → TS) → Prop}
    (hJOIN : P (some h_JOIN) (some t_JOIN)) (hKICK : P (some h_KICK) (some t_KICK))
    (hMODE : P (some h_MODE) (some t_MODE)) (hNICK : P (some h_STNICK) (some t_STNICK))
    (hPART : P (some h_PART) (some t_PART)) (hQUIT : P (some h_QUIT) (some t_QUIT))
    (hTOPIC : P (some h_TOPIC) (some t_TOPIC)) (h311 : P (some h_311) (some t_311))
    (h324 : P (some h_324) (some t_324)) (h332 : P (some h_332) (some t_332))
    (h352 : P (some h_352) (some t_352)) (h353 : P (some h_353) (some t_353))
    (h671 : P (some h_671) (some t_671)) (hnone : P none none) (ev : Bytes) :
    P (stHandler ev) (stTwin ev) :=
  table_step₂ hJOIN <| table_step₂ hKICK <| table_step₂ hMODE <| table_step₂ hNICK <| table_step₂ hPART <|
    table_step₂ hQUIT <| table_step₂ hTOPIC <| table_step₂ h311 <| table_step₂ h324 <| table_step₂ h332 <|
    table_step₂ h352 <| table_step₂ h353 <| table_step₂ h671 hnone

theorem EW_tDispatch (ext : UnicodeExt) (nn : Bytes → Bytes) {A B : TS} (h : EW A B) (l : Line) :
    EW (tDispatch ext nn A l) (tDispatch ext nn B l) := by
  have h1 := EW.ite (toLower ext l.cmd == lit "001") (EW_t_001 h l)
    (EW.ite (toLower ext l.cmd == lit "433") (EW_t_433 h l nn) h)
  exact stTable_cases
    (P := fun _ t => EW (match t with | some t => t _ l | none => _) (match t with | some t => t _ l | none => _))
    (EW_t_JOIN h1 l) (EW_t_KICK h1 l) (EW_t_MODE h1 l) (EW_t_STNICK h1 l) (EW_t_PART h1 l) (EW_t_QUIT h1 l)
    (EW_t_TOPIC h1 l) (EW_t_311 h1 l) (EW_t_324 h1 l) (EW_t_332 h1 l) (EW_t_352 h1 l) (EW_t_353 h1 l)
    (EW_t_671 h1 l) h1 (toLower ext l.cmd)

theorem EW_tFeed (ext : UnicodeExt) (nn : Bytes → Bytes) {A B : TS} (h : EW A B) (ls : List Bytes) :
    EW (tFeed ext nn A ls) (tFeed ext nn B ls) := by
  induction ls generalizing A B with
  | nil => exact h
  | cons x ls ih =>
    simp only [tFeed]
    cases parseLine ext x with
    | none => exact ih h
    | some ln => exact ih (EW_tDispatch ext nn h ln)

theorem WFS_tDispatch (ext : UnicodeExt) (nn : Bytes → Bytes) (S : TS) (l : Line) (w : WFS S) :
    WFS (tDispatch ext nn S l) := (EW_tDispatch ext nn (EW.refl w) l).2

/-- (`wb` is idle: it follows from `h` and `wa`, `Eqv.wfs`.) -/
theorem Eqv_tDispatch (ext : UnicodeExt) (nn : Bytes → Bytes) {A B : TS} (l : Line)
    (h : Eqv A B) (wa : WFS A) (wb : WFS B) : Eqv (tDispatch ext nn A l) (tDispatch ext nn B l) := by
  have _ := wb
  exact (EW_tDispatch ext nn ⟨h, wa⟩ l).1

theorem WFS_tFeed (ext : UnicodeExt) (nn : Bytes → Bytes) (S : TS) (ls : List Bytes) (w : WFS S) :
    WFS (tFeed ext nn S ls) := (EW_tFeed ext nn (EW.refl w) ls).2

theorem Eqv_tFeed (ext : UnicodeExt) (nn : Bytes → Bytes) {A B : TS} (ls : List Bytes)
    (h : Eqv A B) (wa : WFS A) : Eqv (tFeed ext nn A ls) (tFeed ext nn B ls) :=
  (EW_tFeed ext nn ⟨h, wa⟩ ls).1

end Proofs.C13
